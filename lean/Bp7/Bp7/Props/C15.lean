/-
  C15 — JSON codec round trip (tree level; serde_json's text syntax is a modelled dependency).
-/
import Bp7.Model.Json
import Bp7.Props.C01
namespace Bp7.C15
open Bp7

theorem jNum_ok (n bound : Nat) (h : n < bound) : jNum bound (.num n) = .ok n := by simp [jNum, h]

theorem jReadBytes_jBytes (b : Bytes) : jReadBytes (jBytes b) = .ok b := by
  induction b with
  | nil => rfl
  | cons x xs ih => simp_all [jReadBytes, jBytes, jReadU8s, jNum, x.toNat_lt]

theorem jReadEid_jEid (e : Eid) (h : e.wf = true) : jReadEid (jEid e) = .ok e := by
  refine e.wf_cases h rfl (fun ssp hne _ _ => ?_) fun n s h1 hn hs => ?_
  · simp [jEid, jReadEid, jEidRest, jNum, hne]
  · simp [jEid, jReadEid, jEidRest, jNum, jReadPair, withIpn, U64_eq, hn, hs, h1]

theorem jReadCrc_jCrcField (c : CrcVal) (hw : c.wireX = true) : jReadCrc c.toCode (jCrcField c) = .ok c := by
  cases c with
  | no => rfl
  | v16 | v32 => simp [jReadCrc, jCrcField, CrcVal.toCode, CrcVal.bytes, jReadBytes_jBytes]
  | empty16 | empty32 => exact absurd hw nofun
  | unknown k =>
    -- a code of 3 or more passes the three tests for the known types, and no element is written
    simp only [CrcVal.wireX, Bool.and_eq_true, decide_eq_true_eq] at hw
    have h (n : Nat) (hn : n < 3) : k ≠ n := Nat.ne_of_gt (Nat.lt_of_lt_of_le hn hw.1)
    unfold jReadCrc
    rw [CrcVal.toCode, if_neg (h 0 (by decide)), if_neg (h 1 (by decide)), if_neg (h 2 (by decide))]
    rfl

theorem jReadPrimary_enc (p : Primary) (h : p.wfF = true) (hw : p.crc.wireX = true) :
    jReadPrimary (jPrimary p) = .ok p := by
  have F := p.fields h
  have hcode := p.crc.toCode_lt_of_wireX hw
  cases hf : flagsContain F_ALL p.flags F_IS_FRAGMENT <;>
    simp only [jPrimary, Primary.isFragment, hf, if_true, Bool.false_eq_true, if_false, List.append_nil,
      List.cons_append, List.nil_append, jReadPrimary, jReadPair, U32_eq, U64_eq, jNum_ok, hcode, F.version,
      F.flags, F.ts, F.seq, F.lifetime, F.fragOff, F.total, jReadEid_jEid, F.dst, F.src, F.rpt,
      jReadCrc_jCrcField _ hw, Res.bind_ok]
  -- not a fragment: the reader fills in zero offset and length, which is what `wfF` demands
  obtain ⟨h0, h1⟩ := F.frag hf
  cases p
  cases h0
  cases h1
  rfl

theorem jReadCanon_enc (c : Canon) (h : c.wfF = true) (hw : c.crc.wireX = true) :
    jReadCanon (jCanon c) = .ok c := by
  have F := c.fields h
  simp only [jCanon, List.cons_append, List.nil_append, jReadCanon, U64_eq, jNum_ok, F.btype, F.num, F.flags,
    c.crc.toCode_lt_of_wireX hw, jReadBytes_jBytes, decodeBtsd_enc c h, Res.bind_ok, jReadCrc_jCrcField _ hw]

theorem jReadCanons_enc (cs : List Canon) (h : ∀ c ∈ cs, c.wfF = true ∧ c.crc.wireX = true) :
    jReadCanons (cs.map jCanon) = .ok cs := by
  induction cs with
  | nil => rfl
  | cons c cs ih =>
    rw [List.forall_mem_cons] at h
    simp [jReadCanons, jReadCanon_enc c h.1.1 h.1.2, ih h.2]

/-- Reading back what was written, for any bundle as it stands on the wire (`decodeBundle_enc` is
    the CBOR twin; neither reader checks the CRC values it reads). -/
theorem fromJson_enc (b : Bundle) (hb : b.Wire) : Bundle.fromJson (jBundle b) = .ok b := by
  simp only [jBundle, Bundle.fromJson, jReadPrimary_enc _ hb.1.1 hb.1.2, jReadCanons_enc _ hb.2, Res.bind_ok]

/-- The round trip on the extended domain of C01: CRC type codes the library does not know
    (3..255) are written without a CRC element and read back with the same code. -/
theorem json_roundtrip_x (b : Bundle) (h : b.wfX = true) :
    Bundle.fromJson (b.toJson).2 = .ok (b.toJson).1 :=
  fromJson_enc b.calculateCrc (b.calculateCrc_wire h)

/-- **C15.** Parsing the JSON form of any well-formed bundle (fragment or not, CRC type 0, 1 or 2
    in any prior CRC state) yields the bundle as it is after serialisation. -/
theorem json_roundtrip (b : Bundle) (h : b.wf = true) :
    Bundle.fromJson (b.toJson).2 = .ok (b.toJson).1 :=
  json_roundtrip_x b (b.wfX_of_wf h)

/-- the F5 witness: with the pinned rule (no size hint ⇒ no fragment fields) the sample
    fragment does not parse back; here it does -/
example : Bundle.fromJson (C01.sample.toJson).2 = .ok (C01.sample.toJson).1 :=
  json_roundtrip C01.sample (by decide)
example : C01.sample.primary.isFragment = true := by decide

end Bp7.C15
