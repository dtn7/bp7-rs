/-
  C03 — the decoder accepts every conformant RFC 9171 bundle (as produced by the independent
  reference encoder, CRC values computed by the peer) and recovers its content; the decoded
  bundle passes the CRC check and re-encodes to the received bytes.

  Corollaries of C01 (round trip), C02 (encoder = reference) and C04 (fresh CRCs verify), stated
  from the peer's side. `decode_spec_partial` is relative to `CrcAgree` (agreement of the two CRC
  definitions); `decode_spec` discharges it with the theorem C02.crcAgree.
-/
import Bp7.Props.C02
import Bp7.Props.C04
namespace Bp7.C03
open Bp7

def DecodeSpec : Prop := ∀ b : Bundle, b.wf = true →
  ∃ d, decodeBundle (Spec.encode b) = .ok d ∧ C01.eraseCrc d = C01.eraseCrc b ∧ d.crcValid = true
      ∧ (d.toCbor).2 = Spec.encode b

theorem decode_spec_of_eq (b : Bundle) (h : b.wf = true) (heq : (b.toCbor).2 = Spec.encode b) :
    ∃ d, decodeBundle (Spec.encode b) = .ok d ∧ C01.eraseCrc d = C01.eraseCrc b ∧ d.crcValid = true
      ∧ (d.toCbor).2 = Spec.encode b := by
  refine ⟨(b.toCbor).1, ?_, C01.encode_only_crc b, C04.crcValid_toCbor b h, ?_⟩
  · rw [← heq]; exact C01.decode_encode b h
  · rw [C01.encode_idem b h]; exact heq

/-- **C03 (partial).** Every conformant bundle is accepted; the decoded bundle has exactly the
    fields, EIDs, block list and block data that were encoded (everything but the CRC values is
    literally `b`; the CRC values are the ones on the wire), verifies, and re-encodes to the
    received bytes. Relative to `CrcAgree`, which `decode_spec` below supplies. -/
theorem decode_spec_partial (hag : CrcAgree) : DecodeSpec :=
  fun b h => decode_spec_of_eq b h (toCbor_eq_spec hag b h)

/-- **C03.** Unconditional: `CrcAgree` is a theorem (C02.crcAgree). -/
theorem decode_spec : DecodeSpec := decode_spec_partial C02.crcAgree

/-- **C03 for bundles without CRCs (unconditional).** -/
theorem decode_spec_nocrc (b : Bundle) (h : b.wf = true)
    (hp : b.primary.crc = .no) (hc : ∀ c ∈ b.canon, c.crc = .no) :
    ∃ d, decodeBundle (Spec.encode b) = .ok d ∧ C01.eraseCrc d = C01.eraseCrc b ∧ d.crcValid = true
      ∧ (d.toCbor).2 = Spec.encode b :=
  decode_spec b h

/-- the golden bundle from the crate's documentation, taken as *received bytes*: accepted, with
    both CRC-16 values recovered (kernel evaluation of the decoder model) -/
theorem golden_decodes :
    ∃ d, decodeBundle (Spec.encode C02.golden) = .ok d ∧ d.crcValid = true
      ∧ d.canon.map (·.crc) = [.v16 0x0f 0x56] := by
  refine ⟨(C02.golden.toCbor).1, ?_, C04.crcValid_toCbor _ (by decide), ?_⟩
  · rw [← C02.golden_model]; exact C01.decode_encode _ (by decide)
  · decide +kernel

end Bp7.C03
