/-
  C01 — CBOR round trip: decoding an encoded bundle returns the same bundle; encoding is
  deterministic (a function), idempotent, and changes nothing but the stored CRC values.

  `Bundle.wf` is the C01 domain (Lemmas/Codec.lean): every integer within its Rust width,
  canonical endpoint IDs (dtn:none = (1,0), dtn ssp non-empty UTF-8, ipn node ≥ 1), CRC of a
  known type in any prior state (none / empty / stale value), block data matching the block
  type, fragment fields zero unless the fragment flag is set. No bound on the number of
  blocks, on payload sizes or on name lengths (beyond 2^64 - 1, the CBOR length limit).
-/
import Bp7.Lemmas.CrcBlocks
namespace Bp7.C01
open Bp7

/-- **C01 (round trip, extended domain).** Decoding the encoding of a bundle yields the bundle as it
    is after encoding, also when blocks carry CRC type codes the library does not know (3..255;
    `CrcValue::Unknown`): such a block is written without a CRC field and read back with the same
    code — on fragments (10 items) and non-fragments (8) alike. -/
theorem decode_encode_x (b : Bundle) (h : b.wfX = true) :
    decodeBundle (b.toCbor).2 = .ok (b.toCbor).1 :=
  decodeBundle_enc b.calculateCrc (b.calculateCrc_wire h)

/-- **C01 (round trip).** Decoding the encoding of any well-formed bundle yields exactly the
    bundle as it is after encoding (same blocks in order, same data, CRC types and values). -/
theorem decode_encode (b : Bundle) (h : b.wf = true) :
    decodeBundle (b.toCbor).2 = .ok (b.toCbor).1 :=
  decode_encode_x b (b.wfX_of_wf h)

/-- erase stored CRC values, keeping the CRC type -/
def eraseCrc (b : Bundle) : Bundle :=
  { primary := { b.primary with crc := CrcVal.ofType b.primary.crc.toCode },
    canon := b.canon.map (fun c => { c with crc := CrcVal.ofType c.crc.toCode }) }

theorem eraseCrc_eq_mapCrc (b : Bundle) :
    eraseCrc b = mapCrc b (.ofType b.primary.crc.toCode) fun c => .ofType c.crc.toCode := rfl

/-- **C01 (only CRC values change).** For every bundle (well-formed or not), encoding leaves
    every field but the stored CRC values untouched, and keeps every CRC type. -/
theorem encode_only_crc (b : Bundle) : eraseCrc (b.toCbor).1 = eraseCrc b := by
  rw [eraseCrc_eq_mapCrc, toCbor_eq_mapCrc, mapCrc_mapCrc]
  exact mapCrc_congr b (congrArg _ (b.primary.crc.calculate_toCode _)) fun c _ => congrArg _ (c.crc.calculate_toCode _)

/-- **C01 (idempotence, extended domain).** -/
theorem encode_idem_x (b : Bundle) (h : b.wfX = true) :
    (b.toCbor).1.toCbor = ((b.toCbor).1, (b.toCbor).2) := by
  have h := b.wfX_iff.1 h
  have e : b.calculateCrc.calculateCrc = b.calculateCrc := by
    rw [b.calculateCrc_eq_mapCrc, Bundle.calculateCrc_eq_mapCrc, mapCrc_mapCrc]
    exact mapCrc_congr b (CrcVal.calculate_idem (fun c => encPrimary { b.primary with crc := c }) _ h.1.2 _ rfl)
      fun c hc => CrcVal.calculate_idem (fun v => encCanon { c with crc := v }) _ (h.2 c hc).2 _ rfl
  simp only [Bundle.toCbor, e]

/-- **C01 (idempotence).** Encoding the already encoded bundle again gives the same bundle and
    the same bytes. -/
theorem encode_idem (b : Bundle) (h : b.wf = true) :
    (b.toCbor).1.toCbor = ((b.toCbor).1, (b.toCbor).2) :=
  encode_idem_x b (b.wfX_of_wf h)

/-- **C01 (determinism)** is definitional in the model: `toCbor` is a function of the bundle
    value. For the implementation it is part of the correspondence oracle (two encodings of two
    clones are compared). -/
theorem encode_deterministic (b₁ b₂ : Bundle) (h : b₁ = b₂) : b₁.toCbor = b₂.toCbor := by rw [h]

/-! ### non-vacuity: concrete well-formed bundles, incl. a fragment with CRC-32 and an ipn
    source, a stale CRC-16 value, and all five block kinds -/
def sample : Bundle :=
  { primary := { version := 7, flags := 0x20001, crc := .empty32,
                 dst := .dtn 1 [47, 47, 110, 50, 47, 105, 110], src := .ipn 2 23 42, rpt := .null 1 0,
                 ts := 18446744073709551615, seq := 4294967296, lifetime := 3600000,
                 fragOff := 65536, total := 1000000 },
    canon := [ { btype := 10, num := 5, flags := 1, crc := .v16 0xde 0xad, data := .hop 32 3 },
               { btype := 7, num := 4, flags := 0, crc := .no, data := .age 300 },
               { btype := 6, num := 3, flags := 0, crc := .empty16, data := .prev (.dtn 1 [47, 47, 110, 49, 47]) },
               { btype := 192, num := 2, flags := 0, crc := .no, data := .unknown [1, 2, 3] },
               { btype := 1, num := 1, flags := 0, crc := .v32 1 2 3 4, data := .data [0x41, 0x42, 0x43] } ] }

example : sample.wf = true := by decide
example : decodeBundle (sample.toCbor).2 = .ok (sample.toCbor).1 := decode_encode sample (by decide)

/-- a fragment whose primary block has CRC type code 3 and whose payload block has code 255 -/
def sampleX : Bundle :=
  { sample with primary := { sample.primary with crc := .unknown 3 },
                canon := sample.canon.map fun c => if c.btype = 1 then { c with crc := .unknown 255 } else c }
example : sampleX.wfX = true ∧ sampleX.wf = false := by decide
example : decodeBundle (sampleX.toCbor).2 = .ok (sampleX.toCbor).1 := decode_encode_x sampleX (by decide)

end Bp7.C01
