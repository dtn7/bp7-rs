/-
  C17 — DTN time conversion and formatting are total and match the epoch definition.
  (What the printed date and time denote is in Props/C17Calendar.lean.)
-/
import Bp7.Model.Time
namespace Bp7.C17
open Bp7

/-- **C17 (Unix seconds).** For every DTN time — every `u64` and beyond — the conversion is
    `floor(t / 1000) + 946 684 800`, and for `t < 2^64` the result fits in a `u64` (no wrap). -/
theorem unix_eq (t : Nat) : dtnUnix t = t / 1000 + 946684800 := rfl

theorem unix_fits (t : Nat) (h : t < U64) : dtnUnix t < U64 := by
  unfold dtnUnix SECONDS1970_TO2K
  have : U64 = 18446744073709551616 := rfl
  omega

/-- the pinned formula `(t + MS1970_TO2K) / 1000` agrees with the fixed one whenever it does not
    overflow, and overflows exactly for the top 946 684 800 000 values (F7a) -/
theorem unix_pinned_agrees (t : Nat) : (t + MS1970_TO2K) / 1000 = dtnUnix t := by
  unfold dtnUnix MS1970_TO2K SECONDS1970_TO2K; omega
theorem unix_pinned_overflows (t : Nat) (h : t < U64) :
    t + MS1970_TO2K ≥ U64 ↔ t ≥ 18446743127024751616 := by
  unfold MS1970_TO2K; have : U64 = 18446744073709551616 := rfl; omega

/-- **C17 (formatting is total).** `string()` takes the RFC 3339 branch exactly up to the last
    millisecond of year 9999 and the plain-number branch afterwards; both are total functions,
    there is no arithmetic that can overflow a `u64` on the RFC 3339 branch. -/
theorem string_branch (t : Nat) :
    (t ≤ 252455615999999 → dtnString t = rfc3339 (t + 946684800000)) ∧
    (t > 252455615999999 → dtnString t = decStr t ++ asc "ms") := by
  unfold dtnString MS1970_TO2K MAX_RFC3339_MS
  exact ⟨fun h => if_pos (by omega), fun h => if_neg (by omega)⟩

theorem rfc3339_arg_fits (t : Nat) (h : t ≤ 252455615999999) : t + 946684800000 < U64 := by
  have : U64 = 18446744073709551616 := rfl; omega

/-- shape of the RFC 3339 form: 20 characters ending in 'Z' for whole seconds, otherwise 30
    characters with a 9-digit fraction -/
theorem rfc3339_shape (ms : Nat) :
    (ms % 1000 = 0 → (rfc3339 ms).length = 20 ∧ (rfc3339 ms).getLast? = some 90) ∧
    (ms % 1000 ≠ 0 → (rfc3339 ms).length = 30 ∧ (rfc3339 ms).getLast? = some 90) := by
  simp only [rfc3339]
  refine ⟨fun h => ?_, fun h => ?_⟩
  · rw [if_pos (by omega)]; exact ⟨rfl, rfl⟩
  · rw [if_neg (by omega)]; exact ⟨rfl, rfl⟩

/-- **C17 (creation timestamps).** Display = time string, a space, the sequence number. -/
theorem ts_string (t s : Nat) : tsString t s = dtnString t ++ [32] ++ decStr s := rfl

/-- **C17 (current time).** DTN now = Unix clock in ms minus the year-2000 offset. -/
theorem now_eq_clock_minus_epoch (c : Nat) : dtnTimeNow c = c - 946684800000 := rfl

/-! anchors (kernel evaluation of the copied humantime algorithm) -/
example : dtnString 0 = asc "2000-01-01T00:00:00Z" := by decide +kernel
example : dtnString 5097600000 = asc "2000-02-29T00:00:00Z" := by decide +kernel
example : dtnString 252455615999999 = asc "9999-12-31T23:59:59.999000000Z" := by decide +kernel
example : dtnString 252455616000000 = asc "252455616000000ms" := by decide +kernel
example : dtnString 18446744073709551615 = asc "18446744073709551615ms" := by decide +kernel

end Bp7.C17
