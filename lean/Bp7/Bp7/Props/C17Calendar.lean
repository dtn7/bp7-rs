/-
  C17 (calendar) — the human-readable form denotes exactly the instant: humantime's
  civil-from-days algorithm (copied into Model/Time.lean) inverts the proleptic Gregorian
  `daysFromCivil` on every day number, and the date it prints exists.

  Both sides count in years that begin on 1 March, so that the leap day comes last.
  `marchFirst Y` is the day on which such a year begins. The algorithm's four division stages
  find the `Y` with `marchFirst Y ≤ day < marchFirst (Y + 1)` and its month loop the month within
  that year; `daysFromCivil` is `marchFirst` plus the same month offset. Months of such a year
  are counted `m` = 1 (March) … 12 (February), as the month loop counts them, and
  `(153 * (m - 1) + 2) / 5` days of the year precede month `m`.
  The constants: day numbers count from 1970-01-01, which is day 719468 from 0000-03-01
  (719469 with the 1-based day of the month, 719162 = 719468 − 306 for a 1 January);
  730485 = `marchFirst 2000` = 719468 + 11017, the day from which the algorithm counts.

  The last part (`time_denotes`, `tod_digits`, `frac_digits`) is the arithmetic of the digits that
  `rfc3339` (Model/Time.lean) prints; no statement here mentions the printed string itself.
-/
import Bp7.Model.Time
import Bp7.Spec.Calendar
namespace Bp7.C17
open Bp7 Bp7.Spec

/-- days from 0000-03-01 to 1 March of year `Y` -/
def marchFirst (Y : Int) : Int := 365 * Y + Y / 4 - Y / 100 + Y / 400

theorem isLeap_iff (y : Int) : isLeap y = true ↔ (y % 4 = 0 ∧ y % 100 ≠ 0) ∨ y % 400 = 0 := by
  simp [isLeap]

/-- the year from 1 March of `Y` holds the February of `Y + 1` -/
theorem marchFirst_succ (Y : Int) :
    marchFirst (Y + 1) = marchFirst Y + if isLeap (Y + 1) then 366 else 365 := by
  simp only [marchFirst, isLeap_iff]
  omega

theorem marchFirst_le (a b : Int) (h : a ≤ b) : marchFirst a + 365 * (b - a) ≤ marchFirst b := by
  obtain ⟨n, rfl⟩ := Int.le.dest h
  clear h
  induction n with
  | zero => simp
  | succ n ih =>
    have := marchFirst_succ (a + n)
    rw [Int.natCast_succ, ← Int.add_assoc]
    split at this <;> omega

/-- `h0`: the reference takes its `era` by a division that is the floor only from year 0 on -/
theorem daysFromCivil_eq {y m Y mp : Int} (d : Int) (hY : (if m ≤ 2 then y - 1 else y) = Y)
    (hm : (if m > 2 then m - 3 else m + 9) = mp) (h0 : 0 ≤ Y) :
    daysFromCivil y m d = marchFirst Y + (153 * mp + 2) / 5 + d - 719469 := by
  simp only [daysFromCivil, hY, hm, ge_iff_le, h0, if_true, marchFirst]
  omega

theorem daysFromCivil_jan1 (y : Int) (hy : 1 ≤ y) :
    daysFromCivil y 1 1 = marchFirst (y - 1) - 719162 := by
  -- 1 January is day 306 of the year that began on 1 March of `y - 1`
  rw [daysFromCivil_eq (Y := y - 1) (mp := 10) 1 (by omega) (by omega) (by omega)]; omega

/-- February is what the eleven other months leave of the March-based year -/
theorem daysInMonth_feb (Y : Int) :
    daysInMonth (Y + 1) 2 = marchFirst (Y + 1) - marchFirst Y - 337 := by
  rw [marchFirst_succ]
  simp only [daysInMonth, if_true]
  split <;> omega

theorem daysInMonth_march (Y m : Int) (h1 : 1 ≤ m) (h12 : m ≤ 12) :
    daysInMonth (if m + 2 > 12 then Y + 1 else Y) (if m + 2 > 12 then m - 10 else m + 2)
      = if m = 12 then marchFirst (Y + 1) - marchFirst Y - 337
        else (153 * m + 2) / 5 - (153 * (m - 1) + 2) / 5 := by
  have : m = 1 ∨ m = 2 ∨ m = 3 ∨ m = 4 ∨ m = 5 ∨ m = 6 ∨ m = 7 ∨ m = 8 ∨ m = 9 ∨ m = 10 ∨
      m = 11 ∨ m = 12 := by omega
  rcases this with rfl | rfl | rfl | rfl | rfl | rfl | rfl | rfl | rfl | rfl | rfl | rfl
  iterate 11 rfl
  exact daysInMonth_feb Y

theorem daysInMonth_le (y m : Int) : daysInMonth y m ≤ 31 := by
  unfold daysInMonth; split <;> split <;> omega

theorem stage400_eq (n : Int) : stage400 n = (n / 146097, n % 146097) := by
  unfold stage400
  simp only [Int.tdiv_eq_ediv, Int.tmod_eq_emod, show Int.sign 146097 = 1 from rfl,
    show Int.natAbs 146097 = 146097 from rfl]
  split <;> split <;> simp <;> omega

/- The inner stages divide with the quotient capped: the last century of a 400-year cycle and the
   last year of a 4-year cycle are a day longer, and that day must not open a new one. So a
   remainder reaches the divisor only under a capped quotient. (On the range `stage100` leaves,
   the cap of `stage4` never applies.) -/

theorem stage100_spec (r : Int) (h0 : 0 ≤ r) (h1 : r < 146097) :
    ∃ c, stage100 r = (c, r - c * 36524) ∧ 0 ≤ c ∧ c ≤ 3 ∧
      0 ≤ r - c * 36524 ∧ r - c * 36524 ≤ 36524 ∧ (c < 3 → r - c * 36524 < 36524) := by
  unfold stage100
  simp only [Int.tdiv_eq_ediv_of_nonneg h0]
  refine ⟨_, rfl, ?_⟩
  omega

theorem stage4_spec (r : Int) (h0 : 0 ≤ r) (h1 : r ≤ 36524) :
    ∃ q, stage4 r = (q, r - q * 1461) ∧ 0 ≤ q ∧ q ≤ 24 ∧
      0 ≤ r - q * 1461 ∧ r - q * 1461 ≤ 1460 := by
  unfold stage4
  simp only [Int.tdiv_eq_ediv_of_nonneg h0]
  refine ⟨_, rfl, ?_⟩
  omega

theorem stage1_spec (r : Int) (h0 : 0 ≤ r) (h1 : r ≤ 1460) :
    ∃ y, stage1 r = (y, r - y * 365) ∧ 0 ≤ y ∧ y ≤ 3 ∧
      0 ≤ r - y * 365 ∧ r - y * 365 ≤ 365 ∧ (y < 3 → r - y * 365 < 365) := by
  unfold stage1
  simp only [Int.tdiv_eq_ediv_of_nonneg h0]
  refine ⟨_, rfl, ?_⟩
  omega

/-- the stages' quotients are the digits of the year in the mixed radix 400/100/4/1 -/
theorem marchFirst_digits (qc c q y : Int) (hc : 0 ≤ c) (hc' : c ≤ 3) (hq : 0 ≤ q) (hq' : q ≤ 24)
    (hy : 0 ≤ y) (hy' : y ≤ 3) :
    marchFirst (2000 + y + 4 * q + 100 * c + 400 * qc)
      = 730485 + y * 365 + q * 1461 + c * 36524 + qc * 146097 := by
  unfold marchFirst; omega

theorem monthLoop_eq (ls : List Int) (mon rem : Int) (h0 : 0 ≤ rem) (h : rem < ls.sum) :
    ∃ k, k < ls.length ∧ monthLoop ls mon rem = (mon + k + 1, rem - (ls.take k).sum) ∧
      (ls.take k).sum ≤ rem ∧ rem < (ls.take (k + 1)).sum := by
  induction ls generalizing mon rem with
  | nil => exact absurd h (Int.not_lt.mpr h0)
  | cons l ls ih =>
    rw [List.sum_cons] at h
    rw [monthLoop]
    split
    · exact ⟨0, by simp, by simp, by simpa, by simpa⟩
    · obtain ⟨k, hk, e, h1, h2⟩ := ih (mon + 1) (rem - l) (by omega) (by omega)
      refine ⟨k + 1, by simpa, ?_⟩
      simp only [List.take_succ_cons, List.sum_cons, e]
      exact ⟨by congr 1 <;> omega, by omega, by omega⟩

theorem monthLoop_spec (r : Int) (h0 : 0 ≤ r) (h1 : r ≤ 365) :
    ∃ m, monthLoop monthLens 0 r = (m, r - (153 * (m - 1) + 2) / 5) ∧ 1 ≤ m ∧ m ≤ 12 ∧
      (153 * (m - 1) + 2) / 5 ≤ r ∧ r < (153 * m + 2) / 5 := by
  obtain ⟨k, hk, e, hl, hu⟩ := monthLoop_eq monthLens 0 r h0 (Int.lt_of_le_of_lt h1 (by decide))
  -- the lengths of the months passed add up to the closed form; the table's February has 29 days,
  -- one less than the closed form gives the twelfth month
  have tbl : ∀ k : Fin 12, (monthLens.take k.val).sum = (153 * (k.val : Int) + 2) / 5 ∧
      (monthLens.take (k.val + 1)).sum ≤ (153 * ((k.val : Int) + 1) + 2) / 5 := by decide
  obtain ⟨t1, t2⟩ := tbl ⟨k, hk⟩
  have : k < 12 := hk
  refine ⟨k + 1, ?_, by omega, by omega, ?_, Int.lt_of_lt_of_le hu t2⟩
  · rw [e, Int.add_sub_cancel, ← t1, Int.zero_add]
  · rwa [Int.add_sub_cancel, ← t1]

/-- `civilOfDayNo` in March-based coordinates: year `Y`, day `r` of that year, month `m` -/
theorem civilOfDayNo_eq (D : Nat) : ∃ Y r m : Int,
    civilOfDayNo D = ⟨if m + 2 > 12 then Y + 1 else Y, if m + 2 > 12 then m - 10 else m + 2,
      r - (153 * (m - 1) + 2) / 5 + 1⟩ ∧
    0 ≤ Y ∧ marchFirst Y + r = D + 719468 ∧ 0 ≤ r ∧ marchFirst Y + r < marchFirst (Y + 1) ∧
    1 ≤ m ∧ m ≤ 12 ∧ (153 * (m - 1) + 2) / 5 ≤ r ∧ r < (153 * m + 2) / 5 := by
  obtain ⟨c, e100, hc, hc', hr1, hr1', hcl⟩ :=
    stage100_spec (((D : Int) - 11017) % 146097) (by omega) (by omega)
  obtain ⟨q, e4, hq, hq', hr2, hr2'⟩ := stage4_spec _ hr1 hr1'
  obtain ⟨y, e1, hy, hy', hr3, hr3', hyl⟩ := stage1_spec _ hr2 hr2'
  obtain ⟨m, eml, hm⟩ := monthLoop_spec _ hr3 hr3'
  have hY := marchFirst_digits (((D : Int) - 11017) / 146097) c q y hc hc' hq hq' hy hy'
  refine ⟨2000 + y + 4 * q + 100 * c + 400 * (((D : Int) - 11017) / 146097), _, m, ?_,
    by omega, by omega, hr3, ?_, hm⟩
  · simp only [civilOfDayNo, stage400_eq, e100, e4, e1, eml]
    split <;> rfl
  · -- day 365 needs y = 3 and, if q = 24, also c = 3; then the next year is a multiple of 4,
    -- and of 100 only if of 400
    rw [marchFirst_succ]
    simp only [isLeap_iff]
    omega

theorem civilOfDayNo_spec (D : Nat) :
    daysFromCivil (civilOfDayNo D).year (civilOfDayNo D).mon (civilOfDayNo D).mday = D ∧
    1 ≤ (civilOfDayNo D).mon ∧ (civilOfDayNo D).mon ≤ 12 ∧ 1 ≤ (civilOfDayNo D).mday ∧
    (civilOfDayNo D).mday ≤ daysInMonth (civilOfDayNo D).year (civilOfDayNo D).mon := by
  obtain ⟨Y, r, m, e, hY, hD, hr, hr', hm, hm', hl, hu⟩ := civilOfDayNo_eq D
  rw [e]
  simp only []
  rw [daysFromCivil_eq (Y := Y) (mp := m - 1) _ (by omega) (by omega) hY,
    daysInMonth_march Y m hm hm']
  omega

theorem le_year_iff (D : Nat) (y : Int) (hy : 1 ≤ y) :
    y ≤ (civilOfDayNo D).year ↔ daysFromCivil y 1 1 ≤ D := by
  obtain ⟨Y, r, m, e, hY, hD, hr, hr', hm, hm', hl, hu⟩ := civilOfDayNo_eq D
  rw [e, daysFromCivil_jan1 y hy]
  simp only []
  have h1 := marchFirst_le (y - 1) Y
  have h2 := marchFirst_le Y (y - 1)
  have h3 := marchFirst_le (Y + 1) (y - 1)
  omega

theorem year_bounds (D : Nat) (h1 : 10957 ≤ D) (h2 : D ≤ 2932896) :
    2000 ≤ (civilOfDayNo D).year ∧ (civilOfDayNo D).year ≤ 9999 := by
  have a := le_year_iff D 2000 (by decide)
  have b := le_year_iff D 10000 (by decide)
  rw [show daysFromCivil 2000 1 1 = 10957 from rfl] at a
  rw [show daysFromCivil 10000 1 1 = 2932897 from rfl] at b
  omega

/-- days from 2000-03-01 on: the copied algorithm inverts `daysFromCivil` -/
theorem civil_inverse_general (D : Nat) (h1 : 11017 ≤ D) :
    let c := civilOfDayNo D
    daysFromCivil c.year c.mon c.mday = D ∧ 1 ≤ c.mon ∧ c.mon ≤ 12 ∧ 1 ≤ c.mday ∧ c.mday ≤ 31 :=
  have ⟨inv, m1, m12, d1, dm⟩ := civilOfDayNo_spec D
  ⟨inv, m1, m12, d1, Int.le_trans dm (daysInMonth_le _ _)⟩

/-- the first 60 days (2000-01-01 … 2000-02-29), where the algorithm's day count is negative -/
theorem civil_inverse_early (D : Nat) (h1 : 10957 ≤ D) (h2 : D < 11017) :
    let c := civilOfDayNo D
    daysFromCivil c.year c.mon c.mday = D ∧ 1 ≤ c.mon ∧ c.mon ≤ 12 ∧ 1 ≤ c.mday ∧ c.mday ≤ 31 ∧ c.year = 2000 := by
  have ⟨inv, m1, m12, d1, dm⟩ := civilOfDayNo_spec D
  have ⟨a, _⟩ := year_bounds D h1 (by omega)
  have b := le_year_iff D 2001 (by decide)
  rw [show daysFromCivil 2001 1 1 = 11323 from rfl] at b
  exact ⟨inv, m1, m12, d1, Int.le_trans dm (daysInMonth_le _ _), by omega⟩

/-- the calendar part: the printed date is a valid date of years 2000–9999 and denotes the day -/
theorem date_denotes (t : Nat) (h : t ≤ 252455615999999) :
    2000 ≤ (civilOfSecs ((t + 946684800000) / 1000)).year ∧ (civilOfSecs ((t + 946684800000) / 1000)).year ≤ 9999 ∧
    1 ≤ (civilOfSecs ((t + 946684800000) / 1000)).mon ∧ (civilOfSecs ((t + 946684800000) / 1000)).mon ≤ 12 ∧
    1 ≤ (civilOfSecs ((t + 946684800000) / 1000)).mday ∧ (civilOfSecs ((t + 946684800000) / 1000)).mday ≤ 31 ∧
    daysFromCivil (civilOfSecs ((t + 946684800000) / 1000)).year (civilOfSecs ((t + 946684800000) / 1000)).mon
      (civilOfSecs ((t + 946684800000) / 1000)).mday = (((t + 946684800000) / 1000 / 86400 : Nat) : Int) := by
  have ⟨inv, m1, m12, d1, dm⟩ := civilOfDayNo_spec ((t + 946684800000) / 1000 / 86400)
  have ⟨y1, y2⟩ := year_bounds ((t + 946684800000) / 1000 / 86400) (by omega) (by omega)
  exact ⟨y1, y2, m1, m12, d1, Int.le_trans dm (daysInMonth_le _ _), inv⟩

/-- the time-of-day part: day number, hour, minute, second and millisecond recombine to the
    instant `t + 946 684 800 000` ms since 1970 -/
theorem time_denotes (ms : Nat) :
    ms / 1000 % 86400 / 3600 ≤ 23 ∧ ms / 1000 % 86400 / 60 % 60 ≤ 59 ∧ ms / 1000 % 86400 % 60 ≤ 59 ∧ ms % 1000 ≤ 999 ∧
    (ms / 1000 / 86400 * 86400 + ms / 1000 % 86400 / 3600 * 3600 + ms / 1000 % 86400 / 60 % 60 * 60
      + ms / 1000 % 86400 % 60) * 1000 + ms % 1000 = ms := by
  omega

/-- the digits `rfc3339` prints are the zero-padded decimal digits of hour, minute and second -/
theorem tod_digits (sod : Nat) (h : sod < 86400) :
    sod / 3600 / 10 = (sod / 3600) / 10 ∧ sod / 60 / 10 % 6 = (sod / 60 % 60) / 10 ∧ sod / 60 % 10 = (sod / 60 % 60) % 10 ∧
    sod / 10 % 6 = (sod % 60) / 10 ∧ sod % 10 = (sod % 60) % 10 := by
  omega

/-- and of the millisecond fraction followed by six zeros -/
theorem frac_digits (f : Nat) (h : f < 1000) :
    f * 1000000 / 100000000 = f / 100 ∧ f * 1000000 / 10000000 % 10 = f / 10 % 10 ∧ f * 1000000 / 1000000 % 10 = f % 10 ∧
    f * 1000000 / 100000 % 10 = 0 ∧ f * 1000000 / 10000 % 10 = 0 ∧ f * 1000000 / 1000 % 10 = 0 ∧
    f * 1000000 / 100 % 10 = 0 ∧ f * 1000000 / 10 % 10 = 0 ∧ f * 1000000 % 10 = 0 := by
  omega

/-- February has 29 days exactly in leap years: the printed day never exceeds the month's length -/
theorem mday_le_daysInMonth_anchor :
    (civilOfDayNo 11016).mday = 29 ∧ (civilOfDayNo 11016).mon = 2 ∧ (civilOfDayNo 11017).mon = 3 ∧   -- 2000-02-29, 2000-03-01
    (civilOfDayNo 47540).mon = 2 ∧ (civilOfDayNo 47540).mday = 28 ∧ (civilOfDayNo 47541).mon = 3 := by   -- 2100-02-28, 2100-03-01
  decide +kernel

/-- the printed day of month exists in the printed month (29 February only in leap years) -/
theorem mday_valid_general (D : Nat) (h1 : 11017 ≤ D) :
    (civilOfDayNo D).mday ≤ daysInMonth (civilOfDayNo D).year (civilOfDayNo D).mon :=
  (civilOfDayNo_spec D).2.2.2.2

theorem mday_valid_early (D : Nat) (h1 : 10957 ≤ D) (h2 : D < 11017) :
    (civilOfDayNo D).mday ≤ daysInMonth (civilOfDayNo D).year (civilOfDayNo D).mon :=
  (civilOfDayNo_spec D).2.2.2.2

end Bp7.C17
