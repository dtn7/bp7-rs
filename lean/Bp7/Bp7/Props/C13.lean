/-
  C13 — bundle IDs: the ID depends only on the identity fields; equal IDs iff equal identity.
  The "only if" direction is FALSE of the code (known finding K1: '-' separates the fields and
  may occur in the source EID); it is stated in full, refuted by a concrete witness, and proved
  for bundles with the same source (`…_partial`).
-/
import Bp7.Model.Admin
import Bp7.Lemmas.Strings
namespace Bp7.C13
open Bp7

/-- the fields a bundle ID may depend on -/
def Identity (b : Bundle) : Bytes × Nat × Nat × Bool × Nat :=
  (printEid b.primary.src, b.primary.ts, b.primary.seq, b.primary.isFragment,
   if b.primary.isFragment then b.primary.fragOff else 0)

/-- **C13 (functional dependence).** Bundles agreeing on source, creation timestamp, sequence
    number, fragment-ness and (for fragments) offset have the same ID — whatever their
    destination, report-to, lifetime, other flags, blocks or CRCs. -/
theorem id_depends_only (b₁ b₂ : Bundle) (h : Identity b₁ = Identity b₂) : b₁.id = b₂.id := by
  simp only [Identity, Prod.mk.injEq] at h
  obtain ⟨h1, h2, h3, h4, h5⟩ := h
  unfold Bundle.id
  rw [h1, h2, h3, h4]
  cases hf : b₂.primary.isFragment <;> simp_all

/-- the full converse: equal IDs force equal identity -/
def IdInjective : Prop := ∀ b₁ b₂ : Bundle, b₁.id = b₂.id → Identity b₁ = Identity b₂

def k1a : Bundle :=
  { primary := { version := 7, flags := 0, crc := .no, dst := .null 1 0,
                 src := .dtn 1 [47, 47, 110, 47, 97, 45, 49],   -- "//n/a-1"
                 rpt := .null 1 0, ts := 2, seq := 3, lifetime := 0, fragOff := 0, total := 0 },
    canon := [] }
def k1b : Bundle :=
  { primary := { version := 7, flags := 1, crc := .no, dst := .null 1 0,
                 src := .dtn 1 [47, 47, 110, 47, 97],           -- "//n/a"
                 rpt := .null 1 0, ts := 1, seq := 2, lifetime := 0, fragOff := 3, total := 9 },
    canon := [] }

/-- **Known finding K1**: `dtn://n/a-1`, 2, 3 (not a fragment) and `dtn://n/a`, 1, 2, fragment
    offset 3 both have the ID `dtn://n/a-1-2-3`. -/
theorem id_not_injective : ¬ IdInjective :=
  fun h => absurd (h k1a k1b (by decide)) (by decide)

theorem decStr_no_dash (n : Nat) : DASH ∉ decStr n := not_mem_decStr rfl n

theorem digitsVal_append (a b : Bytes) (acc : Nat) : digitsVal (a ++ b) acc = digitsVal b (digitsVal a acc) :=
  Bp7.digitsVal_append a b acc

theorem decStr_injective (a b : Nat) (h : decStr a = decStr b) : a = b := by
  rw [← digitsVal_decStr a, h, digitsVal_decStr]

theorem splitOnByte_fields (t q o : Nat) (f : Bool) :
    splitOnByte DASH (decStr t ++ DASH :: (decStr q ++ if f then DASH :: decStr o else [])) =
      decStr t :: decStr q :: if f then [decStr o] else [] := by
  rw [splitOnByte_append_cons _ (decStr_no_dash t)]
  cases f <;> simp [splitOnByte_append_cons, splitOnByte_of_not_mem, decStr_no_dash]

/-- what follows the source in an ID is a list of decimal numbers joined by `-`, and decimals
    contain no `-` -/
theorem id_injective_of_printed_source (b₁ b₂ : Bundle)
    (hs : printEid b₁.primary.src = printEid b₂.primary.src) (h : b₁.id = b₂.id) :
    Identity b₁ = Identity b₂ := by
  unfold Bundle.id at h
  simp only [hs, List.append_assoc, List.append_cancel_left_eq, List.cons_append, List.nil_append,
    List.cons.injEq, true_and] at h
  have hf := congrArg (splitOnByte DASH) h
  simp only [splitOnByte_fields, List.cons.injEq] at hf
  obtain ⟨ht, hq, hf⟩ := hf
  simp only [Identity, hs, decStr_injective _ _ ht, decStr_injective _ _ hq]
  cases f₁ : b₁.primary.isFragment <;> cases f₂ : b₂.primary.isFragment <;> simp [f₁, f₂] at hf ⊢
  exact decStr_injective _ _ hf

/-- **C13 (injectivity, partial).** Among bundles with the *same source endpoint ID*, equal IDs
    force equal identity fields. Missing for the full statement: an unambiguous separator
    between the source string and the numeric fields (K1). -/
theorem id_injective_same_source_partial (b₁ b₂ : Bundle) (hs : b₁.primary.src = b₂.primary.src)
    (h : b₁.id = b₂.id) : Identity b₁ = Identity b₂ :=
  id_injective_of_printed_source b₁ b₂ (by rw [hs]) h

/-- **C13 (injectivity wherever the separator is unambiguous).** The exact extent of K1: among
    bundles whose source endpoint IDs, as printed, contain no `-`, equal IDs force equal identity
    fields (source, creation time, sequence number, being a fragment, fragment offset) — whatever
    the two sources are.  Every collision of the ID scheme therefore involves a `-` inside a source
    string. -/
theorem id_injective_dashless_sources (b₁ b₂ : Bundle)
    (hd₁ : DASH ∉ printEid b₁.primary.src) (hd₂ : DASH ∉ printEid b₂.primary.src)
    (h : b₁.id = b₂.id) : Identity b₁ = Identity b₂ := by
  refine id_injective_of_printed_source b₁ b₂ ?_ h
  -- the printed source is what precedes the first '-'
  have hp := congrArg (splitFirst DASH) h
  simp only [Bundle.id, List.append_assoc, List.cons_append, List.nil_append,
    splitFirst_append_cons _ hd₁, splitFirst_append_cons _ hd₂] at hp
  injection hp with hp
  exact congrArg Prod.fst hp

theorem printEid_no_dash {e : Eid} (h : (∃ c n s, e = .ipn c n s) ∨ ∃ c v, e = .null c v) :
    DASH ∉ printEid e := by
  rcases h with ⟨c, n, s, rfl⟩ | ⟨c, v, rfl⟩
  · simp only [printEid, List.mem_append, not_or]
    exact ⟨⟨⟨by simp [asc, DASH], decStr_no_dash n⟩, by decide⟩, decStr_no_dash s⟩
  · simp [printEid, asc, DASH]

/-- **C13 (ipn and anonymous sources).** Bundle IDs are injective over all bundles whose sources
    are ipn endpoint IDs or `dtn:none`: K1 cannot occur there. -/
theorem id_injective_ipn_sources (b₁ b₂ : Bundle)
    (hs₁ : (∃ c n s, b₁.primary.src = .ipn c n s) ∨ ∃ c v, b₁.primary.src = .null c v)
    (hs₂ : (∃ c n s, b₂.primary.src = .ipn c n s) ∨ ∃ c v, b₂.primary.src = .null c v)
    (h : b₁.id = b₂.id) : Identity b₁ = Identity b₂ :=
  id_injective_dashless_sources b₁ b₂ (printEid_no_dash hs₁) (printEid_no_dash hs₂) h

theorem refbundle_eq_id_of (b : Bundle) (r : StatusReport)
    (hs : r.source = b.primary.src) (ht : r.ts = b.primary.ts) (hq : r.seq = b.primary.seq)
    (hf : (decide (r.fragLen > 0)) = b.primary.isFragment)
    (ho : b.primary.isFragment = true → r.fragOff = b.primary.fragOff) : r.refbundle = b.id := by
  unfold StatusReport.refbundle Bundle.id
  rw [hs, ht, hq]
  cases hfr : b.primary.isFragment <;> simp_all

/-- **C13 (status reports).** The bundle reference printed by a status report about a
    non-fragment bundle equals that bundle's ID. -/
theorem refbundle_eq_id (b : Bundle) (pos reason now : Nat) (hf : b.primary.isFragment = false) :
    ∃ sr, newStatusReport b pos reason now = .ok sr ∧ sr.refbundle = b.id :=
  ⟨_, by simp [newStatusReport, hf]; rfl,
    refbundle_eq_id_of b _ rfl rfl rfl (by simp [hf]) (by simp [hf])⟩

example : Identity k1a ≠ Identity k1b ∧ k1a.id = k1b.id := by decide

/-- **C13 (reference of a report about any bundle or fragment).** A status report whose source,
    creation time, sequence number and fragment fields are those of a bundle — fragment length
    present exactly for fragments — refers to it by exactly the bundle's ID (first fragments,
    offset 0, included). -/
theorem refbundle_eq_id_general (b : Bundle) (r : StatusReport)
    (hs : r.source = b.primary.src) (ht : r.ts = b.primary.ts) (hq : r.seq = b.primary.seq)
    (hf : (decide (r.fragLen > 0)) = b.primary.isFragment) (ho : r.fragOff = b.primary.fragOff) :
    r.refbundle = b.id :=
  refbundle_eq_id_of b r hs ht hq hf fun _ => ho

end Bp7.C13
