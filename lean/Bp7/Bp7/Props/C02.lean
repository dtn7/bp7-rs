/-
  C02 — the encoder emits exactly the RFC 9171 wire format: byte-exact agreement with an
  independently written reference (Spec/Cbor.lean: RFC 8949 item tree and deterministic encoder;
  Spec/Rfc9171.lean: field order of §4.3.1 / §4.3.2, EIDs as [scheme, ssp], btsd in a byte string,
  CRC last, indefinite outer array; Spec/Crc.lean: catalogue-parameter CRC).

  The CRC *values* inside the bytes are equal because the two CRC definitions agree (`crcAgree`:
  the reflected bit-serial model of the `crc` crate computes the same function as the MSB-first
  catalogue-parameter reference, Lemmas/CrcAgree.lean: the registers are bit reversals of each
  other after every step). `encode_eq_spec_partial` is kept as the statement relative to that
  agreement; `encode_eq_spec` is the unconditional theorem.
-/
import Bp7.Lemmas.SpecEq
import Bp7.Lemmas.CrcAgree
namespace Bp7.C02
open Bp7

def EncodeEqSpec : Prop := ∀ b : Bundle, b.wf = true → (b.toCbor).2 = Spec.encode b

/-- C02 relative to the agreement of the two CRC definitions -/
theorem encode_eq_spec_partial (hag : CrcAgree) : EncodeEqSpec :=
  fun b h => toCbor_eq_spec hag b h

/-- the model CRC (reflected, as the `crc` crate computes it) is the catalogue-parameter CRC -/
theorem crcAgree : CrcAgree := ⟨CrcAgreeProof.crc16_agree, CrcAgreeProof.crc32c_agree⟩

/-- **C02.** For every well-formed bundle — any flags, EIDs, block lists, data sizes and CRC types,
    any prior CRC values — the emitted bytes are exactly the RFC 9171 encoding produced by the
    independent reference, CRC values included. -/
theorem encode_eq_spec : EncodeEqSpec := encode_eq_spec_partial crcAgree

/-! ### fragment fields are on the wire iff the "is a fragment" flag is set

  `wf` (the round-trip domain) demands zero fragment fields on non-fragments, because such fields do
  not survive encoding. For the wire format alone that restriction is not needed: a non-fragment
  whose `fragmentation_offset` / `total_data_length` still hold values (a reassembled bundle whose
  flag was cleared, a builder call without the flag) is written with 8 (9) items, the fields unseen. -/

/-- the primary block with fragment fields forgotten unless the flag says fragment -/
def normFrag (p : Primary) : Primary := if p.isFragment then p else { p with fragOff := 0, total := 0 }

def normFragB (b : Bundle) : Bundle := { b with primary := normFrag b.primary }

theorem normFrag_crc (p : Primary) : (normFrag p).crc = p.crc := by
  unfold normFrag; cases p.isFragment <;> rfl

theorem normFrag_setCrc (p : Primary) (c : CrcVal) :
    ({ normFrag p with crc := c } : Primary) = normFrag { p with crc := c } := by
  unfold normFrag
  have : ({ p with crc := c } : Primary).isFragment = p.isFragment := rfl
  rw [this]
  cases p.isFragment <;> rfl

theorem encPrimary_normFrag (p : Primary) : encPrimary (normFrag p) = encPrimary p := by
  unfold normFrag
  cases h : p.isFragment
  · have h' : ({ p with fragOff := 0, total := 0 } : Primary).isFragment = false := h
    simp [encPrimary, h, h']
  · simp

/-- `calculate_crc` encodes the block with the CRC value reset and then stores the result: both
    commute with forgetting the fragment fields -/
theorem updateCrc_normFrag (p : Primary) : encPrimary (normFrag p).updateCrc = encPrimary p.updateCrc := by
  simp only [Primary.updateCrc, Primary.calcCrc_eq, normFrag_crc, normFrag_setCrc, encPrimary_normFrag]

theorem spec_primaryItem_normFrag (p : Primary) : Spec.primaryItem (normFrag p) = Spec.primaryItem p := by
  have hfields : Spec.primaryFields (normFrag p) = Spec.primaryFields p := by
    unfold normFrag
    cases h : p.isFragment
    · have hs : Spec.isFragment p = false := by rw [spec_isFragment]; exact h
      have hs' : Spec.isFragment ({ p with fragOff := 0, total := 0 } : Primary) = false := hs
      simp [Spec.primaryFields, hs, hs']
    · simp
  rw [Spec.primaryItem, hfields, normFrag_crc]
  rfl

/-- **C02 (stale fragment fields).** Whatever a non-fragment's fragment fields hold, the bytes are
    the RFC encoding — the one of the bundle without them. -/
theorem encode_eq_spec_stalefrag (b : Bundle) (h : (normFragB b).wf = true) :
    (b.toCbor).2 = Spec.encode b := by
  have h1 : (b.toCbor).2 = ((normFragB b).toCbor).2 := by
    simp only [Bundle.toCbor, encBlocks, Bundle.calculateCrc, normFragB, updateCrc_normFrag]
  have h2 : Spec.encode b = Spec.encode (normFragB b) := by
    simp only [Spec.encode, Spec.bundleItem, normFragB, spec_primaryItem_normFrag]
  rw [h1, h2]
  exact encode_eq_spec (normFragB b) h

/-- **C02 (blocks, unconditional).** Every primary block is written as the definite array of its
    §4.3.1 fields in order, followed by the stored CRC value as a byte string iff it has one. -/
theorem primary_layout (p : Primary) (h : p.wf = true) :
    encPrimary p = Spec.encItem (.arr (Spec.primaryFields p ++ crcItems p.crc)) := encPrimary_eq p h

theorem canonical_layout (c : Canon) (h : c.wf = true) :
    encCanon c = Spec.encItem (.arr (Spec.canonFields c ++ crcItems c.crc)) := encCanon_eq c h

/-- `CrcAgree` is only used for blocks with CRC type 1 or 2 -/
theorem crcItems_calc_no {β} (enc : β → Bytes) (getc : β → CrcVal) (setc : β → CrcVal → β) (b : β)
    (fs : List Spec.Item) (hc : getc b = .no) :
    crcItems (calcCrc enc getc setc b) = Spec.crcItem fs (Spec.crcType (getc b)) := by
  rw [calcCrc_eq, hc]; rfl

/-- **C02 (bundles without CRCs, unconditional).** -/
theorem encode_eq_spec_nocrc (b : Bundle) (h : b.wf = true)
    (hp : b.primary.crc = .no) (hc : ∀ c ∈ b.canon, c.crc = .no) :
    (b.toCbor).2 = Spec.encode b :=
  encode_eq_spec b h

/-! ### the reference is pinned to published vectors (kernel evaluation) -/

def hexb (s : String) : Bytes :=
  let rec go : List Char → Bytes
    | a :: b :: r => UInt8.ofNat ((nib a) * 16 + nib b) :: go r
    | _ => []
  go s.toList
where nib (c : Char) : Nat := if c.toNat ≥ 97 then c.toNat - 87 else c.toNat - 48

/-- RFC 9173 Appendix A.1.1: primary block [7,0,0,ipn:1.2,ipn:2.1,ipn:2.1,[0,40],1000000] -/
def a1primary : Primary :=
  { version := 7, flags := 0, crc := .no, dst := .ipn 2 1 2, src := .ipn 2 2 1, rpt := .ipn 2 2 1,
    ts := 0, seq := 40, lifetime := 1000000, fragOff := 0, total := 0 }
theorem rfc9173_a1_primary :
    Spec.encItem (Spec.primaryItem a1primary)
      = [0x88, 0x07, 0x00, 0x00, 0x82, 0x02, 0x82, 0x01, 0x02, 0x82, 0x02, 0x82, 0x02, 0x01, 0x82, 0x02, 0x82, 0x02,
         0x01, 0x82, 0x00, 0x18, 0x28, 0x1a, 0x00, 0x0f, 0x42, 0x40] := by decide +kernel

/-- RFC 9173 Appendix A.1.1: payload block, "Ready to generate a 32-byte payload" -/
def a1payload : Canon :=
  { btype := 1, num := 1, flags := 0, crc := .no,
    data := .data [0x52, 0x65, 0x61, 0x64, 0x79, 0x20, 0x74, 0x6f, 0x20, 0x67, 0x65, 0x6e, 0x65, 0x72, 0x61, 0x74, 0x65,
                   0x20, 0x61, 0x20, 0x33, 0x32, 0x2d, 0x62, 0x79, 0x74, 0x65, 0x20, 0x70, 0x61, 0x79, 0x6c, 0x6f, 0x61, 0x64] }
theorem rfc9173_a1_payload :
    Spec.encItem (Spec.canonItem a1payload)
      = [0x85, 0x01, 0x01, 0x00, 0x00, 0x58, 0x23,
         0x52, 0x65, 0x61, 0x64, 0x79, 0x20, 0x74, 0x6f, 0x20, 0x67, 0x65, 0x6e, 0x65, 0x72, 0x61, 0x74, 0x65,
         0x20, 0x61, 0x20, 0x33, 0x32, 0x2d, 0x62, 0x79, 0x74, 0x65, 0x20, 0x70, 0x61, 0x79, 0x6c, 0x6f, 0x61, 0x64] := by
  decide +kernel

/-- the crate's documented golden bundle (lib.rs doc test): CRC-16 on both blocks, `0f56` at the end -/
def golden : Bundle :=
  { primary := { version := 7, flags := 0x20004, crc := .empty16,
                 dst := .dtn 1 [47, 47, 110, 111, 100, 101, 50, 47, 105, 110, 98, 111, 120],
                 src := .dtn 1 [47, 47, 110, 111, 100, 101, 49, 47, 49, 50, 51, 52, 53, 54],
                 rpt := .dtn 1 [47, 47, 110, 111, 100, 101, 49, 47, 49, 50, 51, 52, 53, 54],
                 ts := 0, seq := 0, lifetime := 3600000, fragOff := 0, total := 0 },
    canon := [ { btype := 1, num := 1, flags := 0, crc := .empty16, data := .data [65, 66, 67] } ] }
theorem golden_reference :
    Spec.encode golden =
      [159, 137, 7, 26, 0, 2, 0, 4, 1, 130, 1, 109, 47, 47, 110, 111, 100, 101, 50,
       47, 105, 110, 98, 111, 120, 130, 1, 110, 47, 47, 110, 111, 100, 101, 49, 47, 49, 50, 51, 52,
       53, 54, 130, 1, 110, 47, 47, 110, 111, 100, 101, 49, 47, 49, 50, 51, 52, 53, 54, 130, 0, 0,
       26, 0, 54, 238, 128, 66, 188, 152, 134, 1, 1, 0, 1, 67, 65, 66, 67, 66, 15, 86, 255] := by decide +kernel
/-- and the model encoder produces the same golden bytes -/
theorem golden_model : (golden.toCbor).2 = Spec.encode golden := by decide +kernel

/-- a reassembled bundle: flag cleared, offset / total length still set -/
def staleFrag : Bundle :=
  { golden with primary := { golden.primary with fragOff := 1024, total := 4096 } }
example : staleFrag.wf = false ∧ (normFragB staleFrag).wf = true := by decide
example : (staleFrag.toCbor).2 = Spec.encode staleFrag := encode_eq_spec_stalefrag staleFrag (by decide)

end Bp7.C02
