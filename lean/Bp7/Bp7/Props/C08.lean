/-
  C08 — forwarding update enforces hop limit, bundle age and lifetime exactly.
  The clock is the parameter `now` (DTN milliseconds); `rt` is the residence time in ms.
  "Block present" = the first block of that type whose data passes the block's own
  extension validation (what `extension_block_by_type_mut` finds).
-/
import Bp7.Lemmas.Blocks
namespace Bp7.C08
open Bp7

/-- the block the forwarding update looks at for block type `t` -/
def presentBlock (b : Bundle) (t : Nat) : Option Canon :=
  b.canon.find? (fun c => c.btype == t && c.extOk)

def hopOf (b : Bundle) : Option (Nat × Nat) :=
  match presentBlock b HOP_COUNT_BLOCK with
  | some c => (match c.data with | .hop l n => some (l, n) | _ => none)
  | none => none

def ageOf (b : Bundle) : Option Nat :=
  match presentBlock b BUNDLE_AGE_BLOCK with
  | some c => (match c.data with | .age a => some a | _ => none)
  | none => none

/-- after counting this hop the hop count exceeds the limit -/
def hopExceeded (b : Bundle) : Prop := ∃ l n, hopOf b = some (l, n) ∧ n + 1 > l
/-- after adding the residence time the age exceeds the lifetime (both ms) -/
def ageExceeded (b : Bundle) (rt : Nat) : Prop := ∃ a, ageOf b = some a ∧ a + rt > b.primary.lifetime
/-- creation time non-zero and creation time + lifetime not after the current time -/
def expired (b : Bundle) (now : Nat) : Prop := b.primary.ts ≠ 0 ∧ b.primary.ts + b.primary.lifetime ≤ now

theorem hopStep_fst (b : Bundle) : (hopStep b.canon).1 = true ↔ hopExceeded b := by
  unfold hopStep hopExceeded hopOf presentBlock isHop
  cases hh : b.canon.find? (fun c => c.btype == HOP_COUNT_BLOCK && c.extOk) with
  | none => simp
  | some c =>
    cases hd : c.data <;> simp [hd]
    constructor
    · intro h; exact ⟨_, _, ⟨rfl, rfl⟩, h⟩
    · rintro ⟨l, n, ⟨rfl, rfl⟩, h⟩; exact h

theorem addAge_btype (rt : Nat) (c : Canon) : (addAge rt c).btype = c.btype := (addAge_sig rt c).1

theorem find_age_after (node : Eid) (g : Canon → Canon) (hg : ∀ c, (g c).btype = c.btype) (l : List Canon) :
    (updFirst isPrev (setPrev node) (updFirst isHop g l)).find? isAge = l.find? isAge := by
  unfold isAge
  rw [find?_updFirst_type BUNDLE_AGE_BLOCK PREVIOUS_NODE_BLOCK (by decide) isPrev _ isPrev_btype
      (fun c => (setPrev_sig node c).1),
    find?_updFirst_type BUNDLE_AGE_BLOCK HOP_COUNT_BLOCK (by decide) isHop g isHop_btype hg]

theorem ageStep_fst (b : Bundle) (node : Eid) (rt : Nat) :
    (ageStep rt b.primary.lifetime (prevStep node (hopStep b.canon).2)).1 = true ↔ ageExceeded b rt := by
  unfold ageStep ageExceeded ageOf presentBlock
  simp only [prevStep, hopStep, find_age_after node bumpHop (fun c => (bumpHop_sig c).1)]
  unfold isAge
  cases hh : b.canon.find? (fun c => c.btype == BUNDLE_AGE_BLOCK && c.extOk) with
  | none => simp
  | some c => cases hd : c.data <;> simp [hd]

theorem lifetimeExceeded_iff (b : Bundle) (now : Nat) :
    b.primary.lifetimeExceeded now = true ↔ expired b now := by
  unfold Primary.lifetimeExceeded expired
  by_cases h : b.primary.ts = 0 <;> simp [h]

/-- **C08 (return value).** The update returns false exactly when the hop count (counting this
    hop) exceeds the limit, or the age (adding the residence time) exceeds the lifetime, or
    the bundle has expired by the clock — for all values, no width assumptions. -/
theorem update_false_iff (b : Bundle) (node : Eid) (rt now : Nat) :
    (b.updateExtensions node rt now).ret = false ↔
      hopExceeded b ∨ ageExceeded b rt ∨ expired b now := by
  rw [← hopStep_fst, ← ageStep_fst b node rt, ← lifetimeExceeded_iff]
  unfold Bundle.updateExtensions
  simp only
  by_cases h1 : (hopStep b.canon).1 = true
  · simp [h1]
  · by_cases h2 : (ageStep rt b.primary.lifetime (prevStep node (hopStep b.canon).2)).1 = true <;> simp [h1, h2]

/-- what the update may change: data of the present hop-count, bundle-age, previous-node block -/
def expectedCanon (b : Bundle) (node : Eid) (rt : Nat) : List Canon :=
  updFirst isAge (fun c => match c.data with | .age a => { c with data := .age (a + rt) } | _ => c)
    (updFirst isPrev (setPrev node)
      (updFirst isHop (fun c => match c.data with | .hop l n => { c with data := .hop l (n + 1) } | _ => c) b.canon))

theorem updFirst_congr (p : Canon → Bool) (f g : Canon → Canon) (l : List Canon)
    (h : ∀ c ∈ l, p c = true → f c = g c) : updFirst p f l = updFirst p g l :=
  updFirst_of_find p f g l fun c hc => h c (List.mem_of_find?_eq_some hc) (List.find?_some hc)

/-- the same with the age field stored as the code stores it: the sum, or the largest 64-bit value
    when the sum does not fit -/
def expectedCanonSat (b : Bundle) (node : Eid) (rt : Nat) : List Canon :=
  updFirst isAge (fun c => match c.data with | .age a => { c with data := .age (min (a + rt) (U64 - 1)) } | _ => c)
    (updFirst isPrev (setPrev node)
      (updFirst isHop (fun c => match c.data with | .hop l n => { c with data := .hop l (n + 1) } | _ => c) b.canon))

/-- **C08 (frame, any lifetime).** Without the assumption that the lifetime fits 64 bits of
    milliseconds (a `Duration` built through the API may hold more): when the update returns true
    the bundle changes as in `update_true_frame`, except that an age that no longer fits its 64-bit
    field is stored as `2^64 - 1` — it never wraps to a smaller value. -/
theorem update_true_frame_sat (b : Bundle) (node : Eid) (rt now : Nat)
    (hu8 : ∀ l n, hopOf b = some (l, n) → l < 256)
    (h : (b.updateExtensions node rt now).ret = true) :
    (b.updateExtensions node rt now).bundle = { b with canon := expectedCanonSat b node rt } := by
  have hnh : ¬ hopExceeded b := fun x => by simp [(update_false_iff b node rt now).mpr (Or.inl x)] at h
  rw [updateExtensions_bundle, if_neg (by rwa [hopStep_fst])]
  congr 1
  -- `addAge rt` is the function `expectedCanonSat` applies; the hop count does not saturate
  -- because count + 1 ≤ limit ≤ 255
  show updFirst isAge (addAge rt) (updFirst isPrev (setPrev node) (updFirst isHop bumpHop b.canon)) =
    updFirst isAge (addAge rt) (updFirst isPrev (setPrev node) _)
  congr 2
  apply updFirst_of_find
  intro c hc
  unfold bumpHop
  cases hd : c.data with
  | hop l n =>
    have ho : hopOf b = some (l, n) := by
      unfold hopOf presentBlock
      unfold isHop at hc
      simp [hc, hd]
    have hl := hu8 l n ho
    have : ¬ n + 1 > l := fun hx => hnh ⟨l, n, ho, hx⟩
    have : min (n + 1) 255 = n + 1 := by omega
    simp [this]
  | _ => rfl

/-- **C08 (frame, no wrap).** When the update returns true, the primary block is untouched and
    the block list differs from before only in the present hop-count block (count + 1 exactly, no
    saturation or wrap), the present bundle-age block (age + residence time exactly) and the
    present previous-node block (now naming `node`). Needs the hop limit to be a `u8`. -/
theorem update_true_frame (b : Bundle) (node : Eid) (rt now : Nat)
    (hu8 : ∀ l n, hopOf b = some (l, n) → l < 256)
    (hlife : b.primary.lifetime < U64)
    (h : (b.updateExtensions node rt now).ret = true) :
    (b.updateExtensions node rt now).bundle = { b with canon := expectedCanon b node rt } := by
  have hna : ¬ ageExceeded b rt := fun x => by simp [(update_false_iff b node rt now).mpr (Or.inr (Or.inl x))] at h
  rw [update_true_frame_sat b node rt now hu8 h]
  congr 1
  -- the stored age does not saturate because age + rt ≤ lifetime < 2^64
  apply updFirst_of_find
  intro c hc
  rw [find_age_after node _ (fun c => by cases c.data <;> rfl)] at hc
  cases hd : c.data with
  | age a =>
    have ho : ageOf b = some a := by
      unfold ageOf presentBlock
      unfold isAge at hc
      simp [hc, hd]
    have : ¬ a + rt > b.primary.lifetime := fun hx => hna ⟨a, ho, hx⟩
    have : min (a + rt) (U64 - 1) = a + rt := by
      have : U64 = 18446744073709551616 := rfl
      omega
    simp [this]
  | _ => rfl

/-! ### non-vacuity and boundary instances -/
def sample : Bundle :=
  { primary := { version := 7, flags := 0, crc := .no, dst := .dtn 1 [47, 47, 100, 47], src := .ipn 2 1 1,
                 rpt := .null 1 0, ts := 1000, seq := 0, lifetime := 3600000, fragOff := 0, total := 0 },
    canon := [ { btype := 10, num := 4, flags := 0, crc := .no, data := .hop 32 31 },
               { btype := 7, num := 3, flags := 0, crc := .no, data := .age 3599998 },
               { btype := 6, num := 2, flags := 0, crc := .no, data := .prev (.ipn 2 9 0) },
               { btype := 1, num := 1, flags := 0, crc := .no, data := .data [1] } ] }
/-- exactly at the limits: hop 31 -> 32 of 32, age 3599998 + 2 = lifetime, one ms before expiry -/
example : (sample.updateExtensions (.ipn 2 5 0) 2 3600999).ret = true := by decide
example : (sample.updateExtensions (.ipn 2 5 0) 3 3600999).ret = false := by decide   -- age by 1 ms (the F3a case)
example : (sample.updateExtensions (.ipn 2 5 0) 2 3601000).ret = false := by decide   -- expired exactly now
/-- hop count 255 of limit 255: exceeded, no wrap (the F3b case) -/
example : (({ sample with canon := [{ btype := 10, num := 2, flags := 0, crc := .no, data := .hop 255 255 }] } : Bundle).updateExtensions
    (.ipn 2 5 0) 0 0).ret = false := by decide

/-- a lifetime of 2^64 ms + 384 ms, age 5, residence time 2^64: forwarded, age stored as 2^64 - 1 -/
example : (({ sample with primary := { sample.primary with lifetime := 18446744073709551616 + 384 },
                          canon := [{ btype := 7, num := 3, flags := 0, crc := .no, data := .age 5 }] } : Bundle).updateExtensions
    (.ipn 2 5 0) 18446744073709551616 2000).ret = true := by decide


end Bp7.C08
