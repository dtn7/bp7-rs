/-
  C19 — structurally malformed bundles are rejected by the decoder, never accepted.
  One theorem per fault class (those proved so far are listed in Audit/C19.lean; every class of the
  property is exercised by the correspondence run, where the oracle is "the implementation must
  answer with an error").

  Faults are injected into the encoding of a well-formed bundle whose stored CRC values are wire
  values (`Conformant`): exactly what a conformant peer sends. A fault inside a block is shown as a
  failure of the block's visitor on the block's items; `reject_of_visit_err` (primary block) and
  `reject_of_canon_err` (a block after it) make it the bundle's.

  The depths in the hypotheses: the decoder starts with 128 levels (`fromSlice`), the bundle's
  array takes one and a block's array another, so a block is read at depth 127 and its items at 126.

  C19Kinds.lean has the position- and value-generic theorems, C19More.lean what follows from them
  for single positions.
-/
import Bp7.Lemmas.Codec
namespace Bp7.C19
open Bp7

/-- a conformant bundle on the wire: well-formed, CRC values as they appear in the encoding -/
def Conformant (b : Bundle) : Prop :=
  (b.primary.wf = true ∧ b.primary.crc.wire = true) ∧ ∀ c ∈ b.canon, c.wf = true ∧ c.crc.wire = true

def wire (b : Bundle) : Bytes := [0x9f] ++ encBlocks b ++ [0xff]

theorem Conformant.toWire {b : Bundle} (h : Conformant b) : b.Wire :=
  ⟨⟨b.primary.wfF_of_wf h.1.1, CrcVal.wireX_of_wire _ h.1.2⟩,
    fun c hc => ⟨c.wfF_of_wf (h.2 c hc).1, CrcVal.wireX_of_wire _ (h.2 c hc).2⟩⟩

/-- the conformant encoding itself is accepted (so the rejections below are about the fault) -/
theorem accepted (b : Bundle) (h : Conformant b) : decodeBundle (wire b) = .ok b := decodeBundle_enc b h.toWire

/-- **C19 (any byte after the end of the bundle).** -/
theorem reject_trailing_bytes (b : Bundle) (h : Conformant b) (x : UInt8) (xs : Bytes) :
    decodeBundle (wire b ++ x :: xs) = .err .trailing :=
  fromSlice_trailing readBundle (wire b) b (parse_wire b h.toWire 129 128 (by omega)) x xs

/-- **C19 (missing break).** The encoding without its final `0xff` is rejected. -/
theorem reject_missing_break (b : Bundle) (h : Conformant b) :
    decodeBundle ([0x9f] ++ encBlocks b) = .err .eof := by
  obtain ⟨f, hv⟩ := visitBundle_blocks b h.toWire [] 127 (by omega)
  rw [List.append_nil] at hv
  rw [List.singleton_append, decodeBundle_9f, seqBody, bind_err (hv.trans (bind_err (collectElems_eof ..) _))]

/-- the block is a definite array, here and below: its head does not begin with the break byte that
    would end the bundle -/
theorem reject_of_visit_err (count : Nat) (hn : count < 18446744073709551616) (body : Bytes) (e : Err) (s' : St)
    (hv : visitPrimary (some count) ⟨body, 126⟩ = (.err e, s')) :
    decodeBundle ([0x9f] ++ (encArrayHead count ++ body)) = .err e :=
  decodeBundle_primary_err _ (encArrayHead_ne_break count body) e _
    (readSeq_visit_err visitPrimary count hn body 127 (by omega) e s' hv)

theorem reject_of_visit_leftover (count : Nat) (hn : count < 18446744073709551616) (body : Bytes) (p : Primary) (k : Nat) (s' : St)
    (hv : visitPrimary (some count) ⟨body, 126⟩ = (.ok (p, some (k + 1)), s')) :
    decodeBundle ([0x9f] ++ (encArrayHead count ++ body)) = .err .trailing :=
  decodeBundle_primary_err _ (encArrayHead_ne_break count body) _ _
    (readSeq_leftover visitPrimary count hn body 127 (by omega) p k s' hv)

/-- the eight mandatory items of a primary block -/
def enc8 (p : Primary) (crcType : Nat) : Bytes :=
  encUint p.version ++ encUint p.flags ++ encUint crcType ++ encEid p.dst ++ encEid p.src ++ encEid p.rpt
  ++ (encArrayHead 2 ++ encUint p.ts ++ encUint p.seq) ++ encUint p.lifetime

theorem visitPrimary_after8 (p : Primary) (h : p.wf = true) (crcType : Nat) (hct : crcType < 256)
    (n : Nat) (tail : Bytes) (d : Nat) (hd : 3 ≤ d) :
    visitPrimary (some (n + 8)) ⟨enc8 p crcType ++ tail, d⟩ = primaryTail p crcType (some n) ⟨tail, d⟩ := by
  simpa only [enc8, List.append_assoc] using
    visitPrimary_mandatory p (p.fields (p.wfF_of_wf h)) crcType hct n tail d hd

/-- a primary block given by its CRC type code, item count and the bytes after the eight
    mandatory items; `rest` = the remainder of the bundle -/
def faultyBundle (p : Primary) (crcType count : Nat) (tail rest : Bytes) : Bytes :=
  [0x9f] ++ (encArrayHead count ++ (enc8 p crcType ++ (tail ++ rest)))

/-- **C19 (CRC field absent although the CRC type requires one).** -/
theorem reject_primary_crc_absent (p : Primary) (h : p.wf = true) (hf : p.isFragment = false)
    (t : Nat) (ht : t = 1 ∨ t = 2) (rest : Bytes) :
    decodeBundle (faultyBundle p t 8 [] rest) = .err .length := by
  apply reject_of_visit_err 8 (by omega) _ .length ⟨rest, 126⟩
  rw [visitPrimary_after8 p h t (by omega) 0 _ 126 (by omega)]
  rcases ht with rfl | rfl <;> rfl

/-- **C19 (CRC field whose length does not match the CRC type).** -/
theorem reject_primary_crc_length (p : Primary) (h : p.wf = true) (hf : p.isFragment = false)
    (t : Nat) (ht : t = 1 ∨ t = 2) (bs : Bytes) (hl : bs.length < 18446744073709551616)
    (hbad : (t = 1 → bs.length ≠ 2) ∧ (t = 2 → bs.length ≠ 4)) (rest : Bytes) :
    decodeBundle (faultyBundle p t 9 (encBytes bs) rest) = .err .length := by
  apply reject_of_visit_err 9 (by omega) _ .length ⟨rest, 126⟩
  rw [visitPrimary_after8 p h t (by omega) 1 _ 126 (by omega)]
  have hc := visitCrc_length t bs hl (ht.imp (fun h => ⟨h, hbad.1 h⟩) (fun h => ⟨h, hbad.2 h⟩)) 0 rest 126
  simp only [primaryTail, bind_apply, pure_apply, show ¬ (1 > 1) by decide, decide_false, Bool.false_eq_true,
    if_false, hc]

/-- **C19 (an extra trailing item / a CRC field although the CRC type is 0).** A non-fragment
    primary block with CRC type 0 and a ninth item of any kind is rejected. -/
theorem reject_primary_extra_item (p : Primary) (h : p.wf = true) (hf : p.isFragment = false)
    (extra rest : Bytes) :
    decodeBundle (faultyBundle p 0 9 extra rest) = .err .trailing := by
  apply reject_of_visit_leftover 9 (by omega) _ { p with crc := .no, fragOff := 0, total := 0 } 0 ⟨extra ++ rest, 126⟩
  rw [visitPrimary_after8 p h 0 (by omega) 1 _ 126 (by omega)]
  rfl

theorem reject_of_canon_err (p : Primary) (hp : p.wf = true ∧ p.crc.wire = true)
    (count : Nat) (hn : count < 18446744073709551616) (body : Bytes) (e : Err) (s' : St)
    (hv : visitCanon (some count) ⟨body, 126⟩ = (.err e, s')) :
    decodeBundle ([0x9f] ++ (encPrimary p ++ (encArrayHead count ++ body))) = .err e := by
  -- the primary block alone is a conformant bundle, the faulty block follows it
  have := decodeBundle_canon_err ⟨p, []⟩ (Conformant.toWire ⟨hp, nofun⟩) _ (encArrayHead_ne_break count body) e _
    (readSeq_visit_err visitCanon count hn body 127 (by omega) e s' hv)
  simpa [encBlocks] using this

/-- a canonical block given by its item count, CRC type code and the bytes after the five
    mandatory items -/
def canonWith (c : Canon) (crcType count : Nat) (tail : Bytes) : Bytes :=
  encArrayHead count ++ (encUint c.btype ++ (encUint c.num ++ (encUint c.flags ++ (encUint crcType ++ (encBytes (btsd c.data) ++ tail)))))

/-- **C19 (canonical block: CRC field absent although the CRC type requires one).** -/
theorem reject_canon_crc_absent (p : Primary) (hp : p.wf = true ∧ p.crc.wire = true) (c : Canon) (h : c.wf = true)
    (t : Nat) (ht : t = 1 ∨ t = 2) (rest : Bytes) :
    decodeBundle ([0x9f] ++ (encPrimary p ++ (canonWith c t 5 rest))) = .err .length := by
  apply reject_of_canon_err p hp 5 (by omega) _ .length ⟨rest, 126⟩
  rw [visitCanon_mandatory c (c.wfF_of_wf h) t (by omega) 0 rest 126]
  rcases ht with rfl | rfl <;> rfl

/-- **C19 (canonical block: CRC-16 field of the wrong length).** -/
theorem reject_canon_crc_length (p : Primary) (hp : p.wf = true ∧ p.crc.wire = true) (c : Canon) (h : c.wf = true)
    (bs : Bytes) (hl : bs.length < 18446744073709551616) (hbad : bs.length ≠ 2) (rest : Bytes) :
    decodeBundle ([0x9f] ++ (encPrimary p ++ (canonWith c 1 6 (encBytes bs ++ rest)))) = .err .length := by
  apply reject_of_canon_err p hp 6 (by omega) _ .length ⟨rest, 126⟩
  rw [visitCanon_mandatory c (c.wfF_of_wf h) 1 (by omega) 1 _ 126,
    bind_err (visitCrc_length 1 bs hl (.inl ⟨rfl, hbad⟩) 0 rest 126)]

/-- **C19 (block-type-specific data of a known extension block that is not the required item).**
    Examples of each kind for bundle age (must be one unsigned integer), hop count (must be an array
    of two small unsigned integers) and previous node (must be an endpoint ID). -/
theorem reject_bad_btsd :
    (∀ raw ∈ ([[0x20], [0x61, 0x61], [0x80], [], [0x01, 0x02], [0xf6]] : List Bytes), (decodeBtsd 7 raw).isErr = true) ∧
    (∀ raw ∈ ([[0x05], [0x81, 0x01], [0x83, 1, 2, 3], [0x82, 0x19, 0x01, 0x00, 0x01], [0x82, 0x20, 0x01], []] : List Bytes),
        (decodeBtsd 10 raw).isErr = true) ∧
    (∀ raw ∈ ([[0x05], [0x80], [0x82, 0x03, 0x00], [0x82, 0x02, 0x82, 0x00, 0x01], [0x82, 0x02, 0x81, 0x01], [0x83, 0x01, 0x00, 0x00], []] : List Bytes),
        (decodeBtsd 6 raw).isErr = true) := by
  decide +kernel

end Bp7.C19
