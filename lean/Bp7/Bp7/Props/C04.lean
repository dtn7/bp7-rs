/-
  C04 — emitted CRCs are CRC-16/X.25 resp. CRC-32C (big-endian) of the block's own encoding
  with the CRC value bytes set to zero; type 0 carries no CRC field; the prior CRC value is
  irrelevant; a freshly encoded bundle passes the CRC check after decoding.

  `crc16` / `crc32c` (Model/Crc.lean) are the reflected bit-serial algorithms. They equal the
  catalogue-parameter reference (Spec/Crc.lean: CRC-16/IBM-SDLC, CRC-32/ISCSI, pinned to the
  check values 0x906E / 0xE3069283) for every input (`C02.crcAgree`, Lemmas/CrcAgree.lean) and
  the `crc` crate's table-driven algorithm as modelled in Model/CrcTable.lean (below,
  Lemmas/CrcTable.lean). That the crate as built computes these values is part of the
  correspondence (`crc16` / `crc32` ops print model and reference value; the harness adds the
  crate's value and an independent bitwise implementation).
-/
import Bp7.Props.C01
import Bp7.Spec.Crc
import Bp7.Lemmas.CrcTable
import Bp7.Lemmas.CrcBlocks
namespace Bp7.C04
open Bp7

/-- the block with its CRC value bytes zeroed -/
def Primary.zeroed (p : Primary) : Primary := { p with crc := p.crc.reset }
def Canon.zeroed (c : Canon) : Canon := { c with crc := c.crc.reset }

/-- **C04 (primary, type 1/2).** The stored CRC after encoding is the CRC of the block's
    encoding with zeroed CRC bytes, big-endian; whatever value was stored before. -/
theorem primary_crc_is_crc_of_zeroed (p : Primary) :
    (p.crc.toCode = 1 → p.updateCrc.crc = be16 (crc16 (encPrimary (Primary.zeroed p)))) ∧
    (p.crc.toCode = 2 → p.updateCrc.crc = be32 (crc32c (encPrimary (Primary.zeroed p)))) ∧
    (p.crc.toCode = 0 → p.updateCrc.crc = .no) :=
  p.crc.calculate_cases _

theorem canon_crc_is_crc_of_zeroed (c : Canon) :
    (c.crc.toCode = 1 → c.updateCrc.crc = be16 (crc16 (encCanon (Canon.zeroed c)))) ∧
    (c.crc.toCode = 2 → c.updateCrc.crc = be32 (crc32c (encCanon (Canon.zeroed c)))) ∧
    (c.crc.toCode = 0 → c.updateCrc.crc = .no) :=
  c.crc.calculate_cases _

/-- The zeroed block does not depend on the value `calculate_crc` has stored: it is the block on
    the wire with zeros in the CRC item, and the zeroed block of `p` itself. -/
theorem zeroed_of_updated (p : Primary) (hk : p.crc.known = true) :
    Primary.zeroed p.updateCrc = Primary.zeroed p :=
  congrArg (fun c => ({ p with crc := c } : Primary)) (p.crc.reset_calculate _ (p.crc.knownX_of_known hk))

/-- `calculate_crc` zeroes the stored value itself -/
theorem Primary.calcCrc_zeroed (p : Primary) : (Primary.zeroed p).calcCrc = p.calcCrc :=
  CrcVal.calculate_of_reset (fun c => encPrimary { p with crc := c }) p.crc

theorem Canon.calcCrc_zeroed (c : Canon) : (Canon.zeroed c).calcCrc = c.calcCrc :=
  CrcVal.calculate_of_reset (fun v => encCanon { c with crc := v }) c.crc

/-- **C04 (what is on the wire).** In the bytes of an encoded bundle, the primary block ends in the
    CRC field of the freshly computed value (`encCrcField`: the byte string of the big-endian CRC
    for types 1 and 2 by `primary_crc_is_crc_of_zeroed`, nothing for type 0 by
    `no_crc_field_when_type0`), which the item count announces. -/
theorem wire_primary (p : Primary) :
    encPrimary p.updateCrc =
      encArrayHead (8 + (if p.isFragment then 2 else 0) + crcFieldCount p.updateCrc.crc)
      ++ encUint p.version ++ encUint p.flags ++ encUint p.crc.toCode
      ++ encEid p.dst ++ encEid p.src ++ encEid p.rpt
      ++ (encArrayHead 2 ++ encUint p.ts ++ encUint p.seq) ++ encUint p.lifetime
      ++ (if p.isFragment then encUint p.fragOff ++ encUint p.total else [])
      ++ encCrcField p.updateCrc.crc := by
  -- the block as updated is written with the type code of the fresh value, which is the old one
  rw [← p.crc.calculate_toCode (encPrimary (Primary.zeroed p))]
  rfl

theorem no_crc_field_when_type0 (p : Primary) (h : p.crc.toCode = 0) :
    encCrcField p.updateCrc.crc = [] ∧ crcFieldCount p.updateCrc.crc = 0 := by
  rw [(primary_crc_is_crc_of_zeroed p).2.2 h]
  exact ⟨rfl, rfl⟩

theorem no_crc_field_when_type0_canon (c : Canon) (h : c.crc.toCode = 0) :
    encCrcField c.updateCrc.crc = [] ∧ crcFieldCount c.updateCrc.crc = 0 := by
  rw [(canon_crc_is_crc_of_zeroed c).2.2 h]
  exact ⟨rfl, rfl⟩

/-- erasing the stored values of a well-formed bundle zeroes every block, which `calculate_crc`
    does itself -/
theorem calculateCrc_eraseCrc (b : Bundle) (h : b.wf = true) : (C01.eraseCrc b).calculateCrc = b.calculateCrc := by
  obtain ⟨hpk, hck⟩ := b.known_of_wf h
  rw [Bundle.calculateCrc_eq_mapCrc, C01.eraseCrc_eq_mapCrc, mapCrc_mapCrc]
  refine mapCrc_congr b ?_ fun c hc => ?_
  · rw [b.primary.crc.ofType_toCode hpk]
    exact Primary.calcCrc_zeroed b.primary
  · rw [c.crc.ofType_toCode (hck c hc)]
    exact Canon.calcCrc_zeroed c

/-- **C04 (history independence).** Two bundles that differ only in stored CRC *values* (same
    CRC types) encode to the same bytes. -/
theorem prior_crc_irrelevant (b b' : Bundle) (h : C01.eraseCrc b = C01.eraseCrc b')
    (hk : b.wf = true) (hk' : b'.wf = true) : (b.toCbor).2 = (b'.toCbor).2 := by
  simp only [Bundle.toCbor, ← calculateCrc_eraseCrc b hk, ← calculateCrc_eraseCrc b' hk', h]

theorem crcValid_toCbor (b : Bundle) (h : b.wf = true) : (b.toCbor).1.crcValid = true := by
  obtain ⟨hpk, hck⟩ := b.known_of_wf h
  simp only [Bundle.toCbor, Bundle.crcValid, Bundle.calculateCrc, Bool.and_eq_true, List.all_eq_true,
    List.mem_map]
  refine ⟨check_updated (fun c => encPrimary { b.primary with crc := c }) _ hpk _ rfl, ?_⟩
  rintro c ⟨c0, hc0, rfl⟩
  exact check_updated (fun c => encCanon { c0 with crc := c }) _ (hck c0 hc0) _ rfl

/-- **C04 (fresh bundles verify).** Whatever a well-formed bundle's prior CRC state, what the
    decoder returns for its encoding passes the library's CRC check. -/
theorem crcValid_decode_encode (b : Bundle) (h : b.wf = true) :
    ∃ d, decodeBundle (b.toCbor).2 = .ok d ∧ d.crcValid = true :=
  ⟨(b.toCbor).1, C01.decode_encode b h, crcValid_toCbor b h⟩

/-- **C04 (the `crc` crate's algorithm).** What `crc::Crc::<u16>::new(&CRC_16_IBM_SDLC).checksum`
    / `Crc::<u32>::new(&CRC_32_ISCSI).checksum` compute — modelled as the crate computes it: a
    256-entry table generated from the reversed catalogue polynomial (table.rs / util.rs) and one
    lookup per byte (`update_table`, L = 1, reflect branch) — is the bit-serial `crc16` / `crc32c`
    the theorems above are stated with, for every input. -/
theorem crate_x25_is_crc16 (d : Bytes) : CrcCrate.x25 d = crc16 d := by
  rw [CrcCrate.x25, CrcCrate.checksum_eq, show CrcCrate.reflectPoly 0x1021#16 = POLY16 by decide +kernel,
    show CrcCrate.init 0xFFFF#16 = 0xFFFF#16 by decide +kernel, crc16]
theorem crate_castagnoli_is_crc32c (d : Bytes) : CrcCrate.castagnoli d = crc32c d := by
  rw [CrcCrate.castagnoli, CrcCrate.checksum_eq,
    show CrcCrate.reflectPoly 0x1EDC6F41#32 = POLY32 by decide +kernel,
    show CrcCrate.init 0xFFFFFFFF#32 = 0xFFFFFFFF#32 by decide +kernel, crc32c]

/-- hence the CRC stored by encoding, stated with the crate's own algorithm -/
theorem primary_crc_is_crate_crc (p : Primary) :
    (p.crc.toCode = 1 → p.updateCrc.crc = be16 (CrcCrate.x25 (encPrimary (Primary.zeroed p)))) ∧
    (p.crc.toCode = 2 → p.updateCrc.crc = be32 (CrcCrate.castagnoli (encPrimary (Primary.zeroed p)))) := by
  rw [crate_x25_is_crc16, crate_castagnoli_is_crc32c]
  exact ⟨(primary_crc_is_crc_of_zeroed p).1, (primary_crc_is_crc_of_zeroed p).2.1⟩

theorem canon_crc_is_crate_crc (c : Canon) :
    (c.crc.toCode = 1 → c.updateCrc.crc = be16 (CrcCrate.x25 (encCanon (Canon.zeroed c)))) ∧
    (c.crc.toCode = 2 → c.updateCrc.crc = be32 (CrcCrate.castagnoli (encCanon (Canon.zeroed c)))) := by
  rw [crate_x25_is_crc16, crate_castagnoli_is_crc32c]
  exact ⟨(canon_crc_is_crc_of_zeroed c).1, (canon_crc_is_crc_of_zeroed c).2.1⟩

/-- the table index never leaves the table (the `getD` default of the model is dead code) -/
theorem crate_table_index_in_range16 (crc : BitVec 16) (b : UInt8) :
    CrcCrate.tableIndex crc b < (CrcCrate.table 0x1021#16).size := by
  simpa [CrcCrate.table] using CrcCrate.tableIndex_lt crc b
theorem crate_table_index_in_range32 (crc : BitVec 32) (b : UInt8) :
    CrcCrate.tableIndex crc b < (CrcCrate.table 0x1EDC6F41#32).size := by
  simpa [CrcCrate.table] using CrcCrate.tableIndex_lt crc b

/-! catalogue pinning of the reference and of the model (same check values) -/
theorem model_crc16_check : (crc16 Spec.check123456789).toNat = 0x906E := by decide +kernel
theorem model_crc32c_check : (crc32c Spec.check123456789).toNat = 0xE3069283 := by decide +kernel

example : (C01.sample.toCbor).1.crcValid = true := crcValid_toCbor C01.sample (by decide)

end Bp7.C04
