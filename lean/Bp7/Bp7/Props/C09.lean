/-
  C09 — generated creation timestamps are unique under any thread interleaving and any clock.
-/
import Bp7.Model.TsGen
namespace Bp7.C09
open Bp7 Bp7.TsGen

/-- lexicographic order on (time, seq) -/
def lexLt (a b : Nat × Nat) : Prop := a.1 < b.1 ∨ (a.1 = b.1 ∧ a.2 < b.2)

/-- every pair handed out so far is below the shared (last, next), and they are pairwise distinct -/
def Inv (s : St) : Prop := (∀ p ∈ s.out, lexLt p (s.last, s.next)) ∧ s.out.Nodup

theorem inv_init : Inv init := by simp [Inv, init]

theorem lexLt_trans {a b c : Nat × Nat} (h1 : lexLt a b) (h2 : lexLt b c ∨ b = c) : lexLt a c := by
  unfold lexLt at *
  rcases h2 with h2 | rfl
  · omega
  · exact h1

theorem lexLt_irrefl (a : Nat × Nat) : ¬ lexLt a a := by unfold lexLt; omega

theorem critical_spec (s : St) (now : Nat) :
    ∃ p, (lexLt (s.last, s.next) p ∨ (s.last, s.next) = p) ∧
      critical s now = { s with last := p.1, next := p.2 + 1, out := p :: s.out } := by
  unfold critical
  by_cases hc : now > s.last
  · exact ⟨(now, 0), .inl (.inl hc), by simp [hc]⟩
  · exact ⟨(s.last, s.next), .inr rfl, by simp [hc]⟩

theorem inv_critical (s : St) (now : Nat) (h : Inv s) : Inv (critical s now) := by
  obtain ⟨p, hp, hc⟩ := critical_spec s now
  rw [hc]
  -- `p` is the pair handed out: everything handed out before is below it, and it is below its
  -- successor, which becomes the shared pair
  have hlt : ∀ q ∈ s.out, lexLt q p := fun q hq => lexLt_trans (h.1 q hq) hp
  have hsucc : lexLt p (p.1, p.2 + 1) := .inr ⟨rfl, Nat.lt_succ_self _⟩
  refine ⟨?_, List.nodup_cons.mpr ⟨fun hm => lexLt_irrefl p (hlt p hm), h.2⟩⟩
  intro q hq
  rcases List.mem_cons.mp hq with rfl | hq
  · exact hsucc
  · exact lexLt_trans (hlt q hq) (.inl hsucc)

theorem inv_step (s : St) (t clock : Nat) (h : Inv s) : Inv (step s t clock) := by
  unfold step
  split
  · exact h
  · exact inv_critical _ _ h

theorem inv_run (sched : List (Nat × Nat)) : Inv (run sched) :=
  List.foldlRecOn sched _ inv_init fun s h e _ => inv_step s e.1 e.2 h

/-- **C09 (uniqueness).** For every number of threads, every interleaving of their steps and
    every sequence of clock readings (same millisecond, later, stepped back), all (time, sequence
    number) pairs returned so far are pairwise distinct. -/
theorem now_unique (sched : List (Nat × Nat)) : (run sched).out.Nodup := (inv_run sched).2

theorem step_step_idle (s : St) (t c c' : Nat) (hidle : lookup t s.pcs = none) :
    step (step s t c) t c' = critical s c := by
  simp [step, hidle, lookup, erase]

/-- **C09 (sequential behaviour).** A call that does not overlap any other (its two steps are
    adjacent) returns `(now, 0)` when the clock reads later than every time handed out before,
    and otherwise the successor of the last pair handed out. -/
theorem now_sequential (sched : List (Nat × Nat)) (t c c' : Nat)
    (hidle : lookup t (run sched).pcs = none) :
    let s := run sched
    let s' := run (sched ++ [(t, c), (t, c')])
    (c > s.last → s'.out.head? = some (c, 0)) ∧
    (¬ c > s.last → s'.out.head? = some (s.last, s.next)) := by
  have hrun : run (sched ++ [(t, c), (t, c')]) = critical (run sched) c := by
    simpa [run, List.foldl_append] using step_step_idle (run sched) t c c' hidle
  simp only [hrun, critical]
  constructor <;> intro hc <;> simp [hc]

/-- consecutive non-overlapping calls within the same millisecond: consecutive sequence numbers -/
example : (run [(0, 5), (0, 5), (0, 5), (0, 5), (1, 5), (1, 5), (0, 6), (0, 6)]).out
    = [(6, 0), (5, 2), (5, 1), (5, 0)] := by decide
/-- clock stepping back: still unique (time never goes back, sequence continues) -/
example : (run [(0, 5), (0, 5), (0, 4), (0, 4), (0, 5), (0, 5)]).out = [(5, 2), (5, 1), (5, 0)] := by decide

/-! ### the pinned code violates the property (F4 witnesses) -/

def hasDup (l : List (Nat × Nat)) : Bool := !(decide l.Nodup)

/-- one thread, clock 5, 4, 5: `(5,0)` is returned twice -/
theorem pinned_not_unique_clock_back :
    hasDup (runP [(0,5),(0,5),(0,5),(0,5), (0,4),(0,4),(0,4),(0,4), (0,5),(0,5),(0,5),(0,5)]).out = true := by
  decide

/-- two threads in the same millisecond after an earlier one: A swaps, B runs a whole call,
    A resets the counter afterwards — B's number is handed out again -/
theorem pinned_not_unique_race :
    hasDup (runP [(0,4),(0,4),(0,4),(0,4),   -- warm-up call in ms 4
                  (0,5),(0,5),               -- A: clock, swap (old = 4)
                  (1,5),(1,5),(1,5),(1,5),   -- B: complete call in ms 5 -> (5,1)
                  (0,5),(0,5),               -- A: store 0, fetch_add -> (5,0)
                  (1,5),(1,5),(1,5),(1,5)]).out = true := by   -- B again -> (5,1)
  decide

end Bp7.C09
