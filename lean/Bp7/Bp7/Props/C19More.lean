/-
  C19, single positions and sample items: a mandatory item missing at the end of a block, and
  instances of the position- and value-generic theorems of C19Kinds.lean.
-/
import Bp7.Props.C19Kinds
namespace Bp7.C19
open Bp7

/-- the first seven mandatory items of a primary block (the lifetime is missing) -/
def enc7 (p : Primary) (crcType : Nat) : Bytes :=
  encUint p.version ++ encUint p.flags ++ encUint crcType ++ encEid p.dst ++ encEid p.src ++ encEid p.rpt
  ++ (encArrayHead 2 ++ encUint p.ts ++ encUint p.seq)

/-- **C19 (a mandatory item missing, primary block).** A primary block that announces seven items
    and carries the first seven — the lifetime is missing — is rejected, whatever follows. -/
theorem reject_primary_missing_item (p : Primary) (h : p.wf = true) (t : Nat) (ht : t < 256) (rest : Bytes) :
    decodeBundle ([0x9f] ++ (encArrayHead 7 ++ (enc7 p t ++ rest))) = .err .length := by
  obtain ⟨_, _, _, hv, -⟩ := visitPrimary_prefix _ ((primaryItems_read p h t ht).take 7) (by simp [primaryItems]) 0 rest
  rw [reqElem_bind_zero] at hv
  exact reject_of_visit_err 7 (by omega) _ .length ⟨rest, 126⟩ (by simpa [primaryItems, enc7] using hv)

/-- items that are not unsigned integers, as first byte(s): negative integer, float16, null,
    text, byte string, empty array, empty map, boolean -/
def notUint : List Bytes :=
  [[0x20], [0x38, 0x01], [0xf9, 0x3c, 0x00], [0xf6], [0x61, 0x31], [0x41, 0x01], [0x80], [0xa0], [0xf4],
   [0xfb, 0x3f, 0xf0, 0, 0, 0, 0, 0, 0], [0x3b, 0xff, 0xff, 0xff, 0xff, 0xff, 0xff, 0xff, 0xff]]

/-- **C19 (wrong kind of item in place of the version).** -/
theorem reject_primary_version_kind (it : Bytes) (hit : it ∈ notUint) (count : Nat) (hc : count < 24) (hc1 : 1 ≤ count)
    (tail : Bytes) :
    ∃ e, decodeBundle ([0x9f] ++ (encArrayHead count ++ (it ++ tail))) = .err e := by
  -- position 0, after no item at all: the first byte of each listed item has a major type other than 0 and 6
  have key := fun b rest hb h6 =>
    reject_primary_prefix [] trivial (b :: rest) (slotFails_of_wrong_major 0 (by omega) b rest hb h6) count (by omega) hc1
  simp only [notUint, List.mem_cons, List.mem_nil_iff, or_false] at hit
  rcases hit with rfl | rfl | rfl | rfl | rfl | rfl | rfl | rfl | rfl | rfl | rfl <;>
    exact key _ _ (by decide) (by decide)

/-- the first three items of a conformant primary block, as the theorems on the destination
    endpoint ID spell them -/
theorem primaryItems_take3 (p : Primary) (x : Bytes) :
    ((primaryItems p p.crc.toCode).take 3).flatten ++ x
      = encUint p.version ++ (encUint p.flags ++ (encUint p.crc.toCode ++ x)) := by
  simp [primaryItems]

theorem toCode_lt_of_wf (p : Primary) (h : p.wf = true) : p.crc.toCode < 256 := by
  have := CrcVal.toCode_le_of_known _ (p.wf_iff.1 h).2
  omega

theorem readEid_uint (n : Nat) (hn : n < 24) (tail : Bytes) (d : Nat) :
    readEid ⟨[UInt8.ofNat n] ++ tail, d⟩ = (.err .type, ⟨tail, d⟩) :=
  parseWith_small_uint (kSeq visitEid) 129 n hn tail d

/-- **C19 (an array replaced by an integer: destination EID).** -/
theorem reject_primary_dst_uint (p : Primary) (h : p.wf = true) (count : Nat) (hc : count < 24) (hc4 : 4 ≤ count)
    (n : Nat) (hn : n < 24) (tail : Bytes) :
    ∃ e, decodeBundle ([0x9f] ++ (encArrayHead count ++
        (encUint p.version ++ (encUint p.flags ++ (encUint p.crc.toCode ++ ([UInt8.ofNat n] ++ tail)))))) = .err e := by
  have := reject_primary_slot p h _ (toCode_lt_of_wf p h) 3 (by omega) count hc (by omega) _ ⟨_, _, readEid_uint n hn tail 126⟩
  rwa [primaryItems_take3] at this

/-- **C19 (endpoint ID faults, destination).** Unknown URI scheme code, ipn node number 0, an
    extra item, or no scheme code in the destination EID of an otherwise conformant primary
    block: rejected. -/
theorem reject_primary_dst_eid (p : Primary) (h : p.wf = true) (count : Nat) (hc : count < 24) (hc4 : 4 ≤ count)
    (bad tail : Bytes)
    (hbad : (∃ code x, code < 24 ∧ code ≠ 1 ∧ code ≠ 2 ∧ bad = [0x82, UInt8.ofNat code] ++ x)
          ∨ (∃ svc, svc < 24 ∧ bad = [0x82, 0x02, 0x82, 0x00, UInt8.ofNat svc])
          ∨ bad = [0x83, 0x01, 0x00, 0x00] ∨ bad = [0x80]) :
    ∃ e, decodeBundle ([0x9f] ++ (encArrayHead count ++
        (encUint p.version ++ (encUint p.flags ++ (encUint p.crc.toCode ++ (bad ++ tail)))))) = .err e := by
  have hf : EidFault bad := by
    rcases hbad with ⟨code, x, hc24, h1, h2, rfl⟩ | ⟨svc, hs, rfl⟩ | rfl | rfl
    · exact .scheme code x hc24 h1 h2
    · exact .node0 svc hs
    · exact .extra
    · exact .noScheme
  have := reject_primary_eid_fault p h _ (toCode_lt_of_wf p h) 3 (.inl rfl) count hc (by omega) bad hf tail
  rwa [primaryItems_take3] at this

/-- **C19 (a string in place of the destination endpoint ID).** Text such as "dtn:none",
    "dtn://node/svc" or "ipn:1.2" — any text or byte string at all — where the `[scheme, ssp]`
    array belongs is never answered with a decoded bundle, whatever the rest of the block. -/
theorem reject_primary_dst_string (p : Primary) (h : p.wf = true) (count : Nat) (hc : count < 24) (hc4 : 4 ≤ count)
    (t : Bytes) (ht : t.length < 18446744073709551616) (asText : Bool) (tail : Bytes) :
    ∃ e, decodeBundle ([0x9f] ++ (encArrayHead count ++
        (encUint p.version ++ (encUint p.flags ++ (encUint p.crc.toCode ++
          ((if asText then encText t else encBytes t) ++ tail)))))) = .err e := by
  obtain ⟨b, tl, hb, hm⟩ : ∃ b tl, (if asText then encText t else encBytes t) = b :: tl ∧ (b.toNat / 32 = 3 ∨ b.toNat / 32 = 2) := by
    cases asText
    · obtain ⟨b, tl, hb, hm⟩ := encHead_major 2 t.length (by omega)
      exact ⟨b, tl ++ t, by simp [encBytes, hb], .inr hm⟩
    · obtain ⟨b, tl, hb, hm⟩ := encHead_major 3 t.length (by omega)
      exact ⟨b, tl ++ t, by simp [encText, hb], .inl hm⟩
  have := reject_primary_wrong_kind p h _ (toCode_lt_of_wf p h) 3 (by omega) count hc (by omega) b (tl ++ tail)
    (by rcases hm with hm | hm <;> rw [hm] <;> decide) (by omega)
  rwa [primaryItems_take3, ← List.cons_append, ← hb] at this

/-- **C19 (an integer in place of the CRC byte string, primary block).** -/
theorem reject_primary_crc_uint (p : Primary) (h : p.wf = true) (hf : p.isFragment = false)
    (t : Nat) (ht : t = 1 ∨ t = 2) (n : Nat) (hn : n < 24) (rest : Bytes) :
    ∃ e, decodeBundle (faultyBundle p t 9 [UInt8.ofNat n] rest) = .err e :=
  have hm : (UInt8.ofNat n).toNat / 32 = 0 := by rw [UInt8.toNat_ofNat']; omega
  (reject_primary_crc_wrong_kind p h t ht (UInt8.ofNat n) rest (by omega) (by omega)).1

/-- **C19 (a mandatory item missing, canonical block).** A canonical block announcing four items —
    the block-type-specific data is missing — is rejected. -/
theorem reject_canon_missing_item (p : Primary) (hp : p.wf = true ∧ p.crc.wire = true) (c : Canon) (h : c.wf = true)
    (t : Nat) (ht : t < 256) (rest : Bytes) :
    decodeBundle ([0x9f] ++ (encPrimary p ++ (encArrayHead 4 ++
      (encUint c.btype ++ (encUint c.num ++ (encUint c.flags ++ (encUint t ++ rest))))))) = .err .length := by
  obtain ⟨_, _, _, hv, -⟩ := visitCanon_prefix _ ((canonItems_read c h t ht).take 4) (by simp [canonItems]) 0 rest
  rw [reqElem_bind_zero] at hv
  exact reject_of_canon_err p hp 4 (by omega) _ .length ⟨rest, 126⟩ (by simpa [canonItems] using hv)

/-- **C19 (an integer in place of the CRC byte string, canonical block).** -/
theorem reject_canon_crc_uint (p : Primary) (hp : p.wf = true ∧ p.crc.wire = true) (c : Canon) (h : c.wf = true)
    (t : Nat) (ht : t = 1 ∨ t = 2) (n : Nat) (hn : n < 24) (rest : Bytes) :
    decodeBundle ([0x9f] ++ (encPrimary p ++ (canonWith c t 6 ([UInt8.ofNat n] ++ rest)))) = .err .type := by
  have hrb : readByteBuf ⟨[UInt8.ofNat n] ++ rest, 126⟩ = (.err .type, ⟨rest, 126⟩) :=
    parseWith_small_uint kByteBuf 129 n hn rest 126
  apply reject_of_canon_err p hp 6 (by omega) _ .type ⟨rest, 126⟩
  rw [visitCanon_mandatory c (c.wfF_of_wf h) t (by omega) 1 _ 126, bind_err (visitCrc_field_err t ht 0 _ 126 _ _ hrb)]

/-- the previous-node block: block-type-specific data that is a text string reading as an endpoint
    URI (not the `[scheme, ssp]` array) does not decode -/
theorem reject_prevnode_text (t : Bytes) (ht : t.length < 18446744073709551616) :
    ∃ e, decodeBtsd PREVIOUS_NODE_BLOCK (encText t) = .err e := by
  obtain ⟨b, tl, hb, hm⟩ := encHead_major 3 t.length (by omega)
  exact decodeBtsd_wrong_major 6 (.inl rfl) _ (.inr ⟨b, tl ++ t, by simp [encText, hb], by omega, by rw [hm]; decide⟩)

example : ∃ e, decodeBtsd PREVIOUS_NODE_BLOCK (encText [100, 116, 110, 58, 110, 111, 110, 101]) = .err e :=
  reject_prevnode_text _ (by decide)

end Bp7.C19
