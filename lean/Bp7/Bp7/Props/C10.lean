/-
  C10 — endpoint IDs: parse and print are mutually inverse and accessors agree.
  Strings are UTF-8 byte strings; the delimiters the parser looks at (':' '/' '.') are ASCII, so
  byte-level splitting is what Rust's `str` methods do on valid UTF-8.
-/
import Bp7.Model.Validate
import Bp7.Lemmas.Codec
import Bp7.Lemmas.Strings
namespace Bp7.C10
open Bp7

/-- the endpoint IDs the parser and the public constructors produce -/
def EidRange : Eid → Prop
  | .null c v => c = 1 ∧ v = 0
  | .dtn c ssp => c = 1 ∧ dtnSspOk ssp = true
  | .ipn c n s => c = 2 ∧ 1 ≤ n ∧ n < U64 ∧ s < U64

theorem parseU64_decStr (n : Nat) (h : n < U64) : parseU64 (decStr n) = some n := by
  rw [parseU64_of_digits (decStr_ne_nil n) (decStr_digits n), digitsVal_decStr, if_pos h]

theorem dot_not_in_decStr (n : Nat) : (46 : UInt8) ∉ decStr n := not_mem_decStr rfl n

/-! The parser behind a literal scheme: splitting at the ':' and comparing the scheme are evaluation. -/

theorem parseEid_dtn (rest : Bytes) : parseEid (asc "dtn:" ++ rest) =
    if rest = asc "none" then .ok Eid.dtnNone
    else if !startsWith [SLASH, SLASH] rest then .err .parse
    else if rest = asc "//none" then .err .parse
    else withDtn rest := by
  simp [parseEid, asc, splitFirst]

theorem parseEid_ipn (rest : Bytes) : parseEid (asc "ipn:" ++ rest) =
    match splitOnByte 46 rest with
    | [a, b] =>
      (match parseU64 a with
       | none => .err .parse
       | some p1 =>
         match parseU64 b with
         | none => .err .parse
         | some p2 => withIpn p1 p2)
    | _ => .err .parse := by
  simp [parseEid, asc, splitFirst]; rfl

theorem withDtn_of_ok {ssp : Bytes} (h : dtnSspOk ssp = true) : withDtn ssp = .ok (.dtn 1 ssp) := by
  simp only [dtnSspOk, Bool.and_eq_true] at h
  simp only [withDtn, h.1, h.2, if_true]

theorem accept_none : parseEid (asc "dtn:none") = .ok Eid.dtnNone := by decide +kernel

/-- **C10 (print then parse).** Every endpoint ID obtained from the parser or the public
    constructors prints to a string that parses back to an equal endpoint ID. -/
theorem parse_print (e : Eid) (h : EidRange e) : parseEid (printEid e) = .ok e := by
  cases e with
  | null c v =>
    obtain ⟨rfl, rfl⟩ := h
    exact accept_none
  | dtn c ssp =>
    obtain ⟨rfl, hok⟩ := h
    have hw := withDtn_of_ok hok
    simp only [dtnSspOk, Bool.and_eq_true] at hok
    -- the ssp starts with "//" and has a third '/', so it is neither "none" nor "//none"
    have hnn : ssp ≠ asc "none" := by rintro rfl; revert hok; decide
    have hsn : ssp ≠ asc "//none" := by rintro rfl; revert hok; decide
    simp [printEid, parseEid_dtn, hnn, hsn, hok.1, hw]
  | ipn c n s =>
    obtain ⟨rfl, h1, hn, hs⟩ := h
    simp [printEid, List.append_assoc, parseEid_ipn, splitOnByte_append_cons _ (dot_not_in_decStr n),
      splitOnByte_of_not_mem (dot_not_in_decStr s), parseU64_decStr, hn, hs, withIpn, h1]

/-- **C10 (CBOR form).** Its CBOR encoding decodes back to an equal endpoint ID (for valid UTF-8
    names of encodable length). -/
theorem cbor_eid_roundtrip (e : Eid) (h : e.wf = true) : fromSlice readEid (encEid e) = .ok e :=
  fromSlice_enc readEid (encEid e) e (readEid_enc e h 128 (by omega))

/-- behind "//" an ssp is well formed iff a third '/' follows -/
theorem dtnSspOk_cons (t : Bytes) : dtnSspOk (SLASH :: SLASH :: t) = t.contains SLASH := rfl

theorem withDtn_range (h : Bytes) : ∃ ssp, withDtn h = .ok (.dtn 1 ssp) ∧ dtnSspOk ssp = true := by
  -- after the first step the string is "//" followed by some `t`; the second adds a '/' unless `t` has one
  obtain ⟨t, ht⟩ : ∃ t, (if startsWith [SLASH, SLASH] h then h else SLASH :: SLASH :: h) = SLASH :: SLASH :: t := by
    split
    · obtain ⟨t, rfl⟩ := startsWith_iff.mp ‹_›
      exact ⟨t, rfl⟩
    · exact ⟨h, rfl⟩
  simp only [withDtn, ht, List.drop_succ_cons, List.drop_zero]
  cases hc : t.contains SLASH
  · exact ⟨_, rfl, by rw [if_neg Bool.false_ne_true, List.cons_append, List.cons_append, dtnSspOk_cons]; simp⟩
  · exact ⟨_, rfl, by rw [if_pos rfl, dtnSspOk_cons, hc]⟩

/-- the range is preserved: what the parser accepts is in the range -/
theorem parse_in_range (s : Bytes) (e : Eid) (h : parseEid s = .ok e) : EidRange e := by
  unfold parseEid at h
  split at h
  · cases h
  next scheme rest _ =>
  split at h
  · -- scheme "dtn": accepted are "none" and what `withDtn` makes of the rest
    split at h
    · cases h; exact ⟨rfl, rfl⟩
    split at h
    · cases h
    split at h
    · cases h
    · obtain ⟨ssp, hw, hok⟩ := withDtn_range rest
      rw [hw] at h; cases h; exact ⟨rfl, hok⟩
  split at h
  · -- scheme "ipn": accepted are two numbers read by `parseU64`, the first not 0
    split at h
    · split at h
      · cases h
      next p1 ha =>
      split at h
      · cases h
      next p2 hb =>
      simp only [withIpn] at h
      split at h <;> cases h
      exact ⟨rfl, ‹_›, parseU64_lt ha, parseU64_lt hb⟩
    · cases h
  · cases h

/-- the canonical dtn form "//" node "/" service -/
def dtnSsp (node svc : Bytes) : Bytes := [SLASH, SLASH] ++ node ++ [SLASH] ++ svc

theorem dtnSsp_ok (node svc : Bytes) : dtnSspOk (dtnSsp node svc) = true := by
  simp [dtnSsp, dtnSspOk_cons]

theorem dtnNodeName_ssp (node svc : Bytes) (hn : SLASH ∉ node) : dtnNodeName (dtnSsp node svc) = node := by
  simp [dtnNodeName, dtnSsp, splitOnByte, splitOnByte_append_cons svc hn]

theorem dtnServiceName_ssp (node svc : Bytes) (hn : SLASH ∉ node) :
    dtnServiceName (dtnSsp node svc) = (if svc.isEmpty then none else some svc) := by
  simp [dtnServiceName, dtnSsp, afterNth, afterNth_append_cons 0 svc hn]

/-- the string `new_endpoint` and `node_id` build is scheme, then `dtnSsp` -/
theorem dtn_uri (node svc : Bytes) :
    asc "dtn://" ++ node ++ [SLASH] ++ svc = asc "dtn:" ++ dtnSsp node svc := by
  simp [asc, dtnSsp, SLASH]

/-- **C10 (canonical dtn strings).** `dtn://node/service` is accepted for every node name
    without '/' and every service string, and node and service are reported unchanged. -/
theorem accept_dtn (node svc : Bytes) (hn : SLASH ∉ node) :
    parseEid (asc "dtn:" ++ dtnSsp node svc) = .ok (.dtn 1 (dtnSsp node svc)) ∧
    (Eid.dtn 1 (dtnSsp node svc)).node = some node ∧
    (Eid.dtn 1 (dtnSsp node svc)).serviceName = (if svc.isEmpty then none else some svc) :=
  ⟨parse_print (.dtn 1 (dtnSsp node svc)) ⟨rfl, dtnSsp_ok node svc⟩,
   congrArg some (dtnNodeName_ssp node svc hn), dtnServiceName_ssp node svc hn⟩

/-- **C10 (canonical ipn strings).** -/
theorem accept_ipn (n s : Nat) (h1 : 1 ≤ n) (hn : n < U64) (hs : s < U64) :
    parseEid (asc "ipn:" ++ decStr n ++ [46] ++ decStr s) = .ok (.ipn 2 n s) ∧
    (Eid.ipn 2 n s).node = some (decStr n) ∧
    (Eid.ipn 2 n s).serviceName = (if s = 0 then none else some (decStr s)) :=
  ⟨parse_print (.ipn 2 n s) ⟨rfl, h1, hn, hs⟩, rfl, rfl⟩

/-- **C10 (rejections).** -/
theorem reject_no_colon (s : Bytes) (h : (58 : UInt8) ∉ s) : parseEid s = .err .parse := by
  simp [parseEid, splitFirst_of_not_mem h]

theorem reject_unknown_scheme (scheme rest : Bytes) (hc : (58 : UInt8) ∉ scheme)
    (h1 : scheme ≠ asc "dtn") (h2 : scheme ≠ asc "ipn") : parseEid (scheme ++ 58 :: rest) = .err .parse := by
  simp [parseEid, splitFirst_append_cons rest hc, h1, h2]

theorem reject_dtn_without_slashes (rest : Bytes) (h1 : rest ≠ asc "none")
    (h2 : startsWith [SLASH, SLASH] rest = false) : parseEid (asc "dtn:" ++ rest) = .err .parse := by
  simp [parseEid_dtn, h1, h2]

theorem reject_dtn_none_host : parseEid (asc "dtn://none") = .err .parse := by decide +kernel

theorem reject_ipn_node0 (x : Bytes) : (parseEid (asc "ipn:" ++ [48, 46] ++ x)).isErr = true := by
  have hsp : splitOnByte 46 ([48, 46] ++ x) = [48] :: splitOnByte 46 x :=
    splitOnByte_append_cons (a := [48]) x (by decide)
  rw [List.append_assoc, parseEid_ipn, hsp]
  -- whatever follows "0.", the node number read is 0
  have h0 : parseU64 [48] = some 0 := by decide
  cases splitOnByte 46 x with
  | nil => rfl
  | cons b tl =>
    cases tl with
    | nil => simp only [h0]; cases parseU64 b <;> rfl
    | cons _ _ => rfl

theorem reject_ipn_one_field (rest : Bytes) (h : (46 : UInt8) ∉ rest) :
    parseEid (asc "ipn:" ++ rest) = .err .parse := by
  simp [parseEid_ipn, splitOnByte_of_not_mem h]

theorem reject_ipn_nonnumeric (a b : Bytes) (ha : (46 : UInt8) ∉ a) (hb : (46 : UInt8) ∉ b)
    (h : parseU64 a = none ∨ parseU64 b = none) : parseEid (asc "ipn:" ++ a ++ [46] ++ b) = .err .parse := by
  simp only [List.append_assoc, parseEid_ipn, List.cons_append, List.nil_append,
    splitOnByte_append_cons b ha, splitOnByte_of_not_mem hb]
  rcases h with h | h
  · simp [h]
  · cases parseU64 a <;> simp [h]

theorem dtnNodeName_no_slash (ssp : Bytes) : SLASH ∉ dtnNodeName ssp := by
  unfold dtnNodeName
  split
  · rename_i h
    exact not_mem_of_mem_splitOnByte SLASH ssp _ (by simp [h])
  · simp

/-- **C10 (node ID).** The node ID derived from an endpoint ID is itself a parseable node ID
    with the same node part. -/
theorem node_id_parses (e : Eid) (h : EidRange e) (hne : e ≠ Eid.dtnNone) :
    ∃ nid e', e.nodeId = some nid ∧ parseEid nid = .ok e' ∧ e'.node = e.node ∧ e'.isNodeId = true := by
  cases e with
  | null c v => obtain ⟨rfl, rfl⟩ := h; exact absurd rfl hne
  | dtn c ssp =>
    obtain ⟨hp, hnode, hsvc⟩ := accept_dtn (dtnNodeName ssp) [] (dtnNodeName_no_slash ssp)
    rw [← dtn_uri, List.append_nil] at hp
    exact ⟨_, _, rfl, hp, hnode, by simpa [Eid.isNodeId, Eid.serviceName] using hsvc⟩
  | ipn c n s =>
    obtain ⟨rfl, h1, hn, hs⟩ := h
    have hp := (accept_ipn n 0 h1 hn (by decide)).1
    rw [List.append_assoc, show [46] ++ decStr 0 = asc ".0" by decide] at hp
    exact ⟨_, _, rfl, hp, rfl, rfl⟩

/-- **C10 (sibling endpoint, dtn).** Deriving a sibling with a new service keeps the node part and
    reports the new service. -/
theorem new_endpoint_dtn (c : Nat) (ssp svc : Bytes) :
    ∃ e', (Eid.dtn c ssp).newEndpoint svc = .ok e' ∧ e'.node = some (dtnNodeName ssp) ∧
      e'.serviceName = (if svc.isEmpty then none else some svc) := by
  have := accept_dtn (dtnNodeName ssp) svc (dtnNodeName_no_slash ssp)
  rw [← dtn_uri] at this
  exact ⟨_, this⟩

/-- **C10 (sibling endpoint, ipn).** For an ipn endpoint ID, deriving a sibling with service number
    `svc` (given in decimal) keeps the node number and reports the new service. -/
theorem new_endpoint_ipn (c node s0 svc : Nat) (hn : 1 ≤ node) (hs : svc < U64) :
    ∃ e', (Eid.ipn c node s0).newEndpoint (decStr svc) = .ok e' ∧ e'.node = some (decStr node) ∧
      e'.serviceName = (if svc = 0 then none else some (decStr svc)) := by
  refine ⟨.ipn 2 node svc, ?_, rfl, rfl⟩
  have ht : trim (decStr svc) = decStr svc := by
    refine trim_ascii (decStr_ne_nil svc) fun c hc => ?_
    have := isDigit_iff.mp (decStr_digits svc c hc)
    omega
  simp only [Eid.newEndpoint, ht, parseU64_decStr svc hs, withIpn, if_pos hn]

/-- non-vacuity -/
example : EidRange (.dtn 1 (dtnSsp (asc "node1") (asc "in/box"))) := ⟨rfl, dtnSsp_ok _ _⟩
example : parseEid (asc "dtn://node1/in/box") = .ok (.dtn 1 (asc "//node1/in/box")) := by decide +kernel
example : (parseEid (asc "ipn:0.5")).isErr = true ∧ (parseEid (asc "ipn:1.2.3")).isErr = true
    ∧ (parseEid (asc "dtn:node")).isErr = true ∧ (parseEid (asc "http://x")).isErr = true := by decide +kernel

end Bp7.C10
