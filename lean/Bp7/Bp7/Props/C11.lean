/-
  C11 — block-list invariants survive any sequence of bundle mutations.

  `Inv` is the structural invariant; `inv_step` shows every public mutator preserves it for every
  argument of the kind the property quantifies over (`OpOk`), `run_inv` lifts it to operation
  sequences of any length (the property's bound of 8 is not needed) and carries the payload
  read-back clause, `inv_facts` derives the clauses of the property from `Inv` — including
  "validates" and "round-trips through CBOR".

  Only `add_canonical_block` changes the (type, number) list (`inv_insert`); every other mutator
  goes through `inv_same_sig`: the forwarding update as three first-match updates, `set_crc` and
  `to_cbor` as `mapCrc`, `set_payload` and `set_payload_block` as a replacement of the last block.
-/
import Bp7.Lemmas.Blocks
import Bp7.Props.C01
import Bp7.Props.C07
namespace Bp7.C11
open Bp7

inductive Op where
  | add (c : Canon)
  | setPayload (d : Bytes)
  | setPayloadBlock (num flags : Nat) (d : Bytes)   -- a payload block carrying any requested number
  | setCrc (t : Nat)
  | upd (node : Eid) (rt now : Nat)
  | tocbor                                         -- `to_cbor(&mut self)`: the object itself is encoded (CRC values recomputed)
  deriving Repr

/-- a payload block as a caller may hand it in: any block number (e.g. 0 from `CanonicalBlock::new`) -/
def payloadBlockReq (n f : Nat) (d : Bytes) : Canon := { newPayloadBlock f d with num := n }

def step (b : Bundle) : Op → Bundle
  | .add c => b.addBlock c
  | .setPayload d => b.setPayload d
  | .setPayloadBlock n f d => b.setPayloadBlock (payloadBlockReq n f d)
  | .setCrc t => b.setCrc t
  | .upd node rt now => (b.updateExtensions node rt now).bundle
  | .tocbor => (b.toCbor).1

def run (b : Bundle) (ops : List Op) : Bundle := ops.foldl step b

/-- a block that is well formed (in the C01 sense) and individually valid in a bundle with primary `p` -/
def blockOk (p : Primary) (c : Canon) : Prop := c.wf = true ∧ C07.localOk p c

/-- arguments the property quantifies over: well-typed blocks of any type and requested number,
    any payload, CRC types 0..2, a valid previous-node EID -/
def OpOk (p : Primary) : Op → Prop
  | .add c => c.wf = true ∧ (c.btype = PAYLOAD_BLOCK ∨ C07.localOk p c)
  | .setPayload d => d.length < U64
  | .setPayloadBlock _ f d => f < 256 ∧ d.length < U64 ∧ C07.localOk p (newPayloadBlock f d)
  | .setCrc t => t ≤ 2
  | .upd node _ _ => node.wf = true ∧ eidOk node = true ∧ (encEid node).length < U64
  | .tocbor => True

/-- invariant on the (type, number) list -/
def SInv (s : List (Nat × Nat)) : Prop :=
  (s.map (·.2)).Pairwise (· > ·) ∧
  (∃ init, s = init ++ [(1, 1)] ∧ ∀ x ∈ init, x.1 ≠ 1 ∧ 2 ≤ x.2) ∧
  (∀ t, isSingletonType t = true → (s.map (·.1)).count t ≤ 1)

structure Inv (b : Bundle) : Prop where
  pwf : b.primary.wf = true
  pval : b.primary.validate = []
  s : SInv (sig b.canon)
  blocks : ∀ c ∈ b.canon, blockOk b.primary c
  age : b.primary.ts = 0 → BUNDLE_AGE_BLOCK ∈ (sig b.canon).map (·.1)

theorem singleton_count_iff_pairwise (ts : List Nat) :
    (∀ t, isSingletonType t = true → ts.count t ≤ 1) ↔
      ts.Pairwise (fun a b => ¬ (a = b ∧ (b = 6 ∨ b = 7 ∨ b = 10))) := by
  -- both sides say that the singleton types in `ts` are pairwise distinct
  have h1 : (ts.filter isSingletonType).Nodup ↔ ∀ t, isSingletonType t = true → ts.count t ≤ 1 := by
    rw [List.nodup_iff_count]
    refine forall_congr' fun t => ?_
    by_cases ht : isSingletonType t = true
    · simp [List.count_filter ht, ht]
    · simp [ht, List.count_eq_zero.mpr fun hm => ht (List.mem_filter.mp hm).2]
  rw [← h1, List.Nodup, List.pairwise_filter]
  refine List.Pairwise.iff fun a b => ?_
  rw [C07.singleton_iff, C07.singleton_iff]
  exact ⟨fun h ⟨he, hb⟩ => h (he ▸ hb) hb he, fun h ha hb he => h ⟨he, hb⟩⟩

/-- `SInv` read on the block list itself: the payload block last, the list sorted and pairwise
    compatible in the sense in which `Bundle::validate` checks it (`C07.validate_nil_iff`) -/
theorem sinv_iff (l : List Canon) : SInv (sig l) ↔
    (∃ init p, l = init ++ [p] ∧ p.btype = 1 ∧ p.num = 1 ∧ ∀ c ∈ init, c.btype ≠ 1 ∧ 2 ≤ c.num) ∧
    l.Pairwise (fun x y => x.num ≥ y.num) ∧ l.Pairwise C07.Spec.compatible := by
  unfold SInv
  rw [sig_nums, sig_types, List.pairwise_map, singleton_count_iff_pairwise, List.pairwise_map,
    and_left_comm, ← List.pairwise_and_iff, ← List.pairwise_and_iff]
  refine and_congr ⟨?_, ?_⟩ (List.Pairwise.iff fun x y =>
    ⟨fun ⟨hgt, hty⟩ => ⟨Nat.le_of_lt hgt, ⟨Nat.ne_of_gt hgt, hty⟩⟩,
     fun ⟨hge, hne, hty⟩ => ⟨Nat.lt_of_le_of_ne hge hne.symm, hty⟩⟩)
  · rintro ⟨sinit, hs, hinit⟩
    obtain ⟨init, l₂, rfl, rfl, h2⟩ := List.map_eq_append_iff.mp hs
    obtain ⟨p, rfl, h3⟩ := List.map_eq_singleton_iff.mp h2
    exact ⟨init, p, rfl, congrArg Prod.fst h3, congrArg Prod.snd h3,
      fun c hc => hinit _ (List.mem_map.mpr ⟨c, hc, rfl⟩)⟩
  · rintro ⟨init, p, rfl, hpt, hpn, hinit⟩
    refine ⟨sig init, by simp [sig, hpt, hpn], ?_⟩
    intro x hx
    obtain ⟨c, hc, rfl⟩ := List.mem_map.mp hx
    exact hinit c hc

theorem extOk_of_blockOk {p : Primary} {c : Canon} (h : blockOk p c) : c.extOk = true :=
  ((C07.canon_validate_iff c).mp h.2.1).2

theorem payload_of_blockOk {p : Primary} {c : Canon} (h : blockOk p c) (ht : c.btype = 1) :
    ∃ d, c.data = .data d ∧ c.num = 1 := by
  have hw := h.1
  have he := extOk_of_blockOk h
  unfold Canon.wf at hw
  unfold Canon.extOk at he
  cases hd : c.data <;> simp [hd, ht, PAYLOAD_BLOCK, BUNDLE_AGE_BLOCK, HOP_COUNT_BLOCK, PREVIOUS_NODE_BLOCK] at hw he
  exact ⟨_, rfl, he⟩

theorem blockByType_last (pr : Primary) (init : List Canon) (p : Canon) (hi : ∀ c ∈ init, c.btype ≠ 1)
    (hpt : p.btype = 1) (he : p.extOk = true) :
    Bundle.blockByType ⟨pr, init ++ [p]⟩ PAYLOAD_BLOCK = some p := by
  simp only [Bundle.blockByType, List.find?_append, PAYLOAD_BLOCK]
  rw [List.find?_eq_none.mpr (fun c hc => by simp [hi c hc])]
  simp [hpt, he]

theorem payload_of_inv (b : Bundle) (h : Inv b) :
    ∃ init p d, b.canon = init ++ [p] ∧ p.btype = 1 ∧ p.num = 1 ∧ p.data = .data d ∧
      (∀ c ∈ init, c.btype ≠ 1 ∧ 2 ≤ c.num) ∧ b.blockByType PAYLOAD_BLOCK = some p := by
  obtain ⟨⟨init, p, hl, hpt, hpn, hinit⟩, -⟩ := (sinv_iff b.canon).mp h.s
  have hp := h.blocks p (by rw [hl]; simp)
  obtain ⟨d, hd, -⟩ := payload_of_blockOk hp hpt
  refine ⟨init, p, d, hl, hpt, hpn, hd, hinit, ?_⟩
  have := blockByType_last b.primary init p (fun c hc => (hinit c hc).1) hpt (extOk_of_blockOk hp)
  rwa [← hl] at this

/-- **C11 (the clauses of the property follow from the invariant).** -/
theorem inv_facts (b : Bundle) (h : Inv b) :
    (b.canon.map (·.num)).Pairwise (· > ·)
    ∧ (b.canon.map (·.num)).Nodup ∧ (∀ c ∈ b.canon, c.num ≠ 0)
    ∧ (∃ init p, b.canon = init ++ [p] ∧ p.btype = 1 ∧ p.num = 1 ∧ ∀ c ∈ init, c.btype ≠ 1)
    ∧ (∀ t, t = 6 ∨ t = 7 ∨ t = 10 → (b.canon.map (·.btype)).count t ≤ 1)
    ∧ b.validate = []
    ∧ decodeBundle (b.toCbor).2 = .ok (b.toCbor).1 := by
  obtain ⟨init, p, d, hl, hpt, hpn, hpd, hinit, hfind⟩ := payload_of_inv b h
  obtain ⟨-, hsorted, hcompat⟩ := (sinv_iff b.canon).mp h.s
  refine ⟨List.pairwise_map.mpr ((hsorted.and hcompat).imp fun h => by have := h.2.1; omega),
    List.pairwise_map.mpr (hcompat.imp And.left), ?_,
    ⟨init, p, hl, hpt, hpn, fun c hc => (hinit c hc).1⟩, ?_, ?_, ?_⟩
  · intro c hc
    rw [hl] at hc
    rcases List.mem_append.mp hc with hc | hc
    · have := (hinit c hc).2; omega
    · simp at hc; subst hc; omega
  · intro t ht
    rw [← sig_types]; exact h.s.2.2 t ((C07.singleton_iff t).mpr ht)
  · rw [C07.validate_nil_iff]
    exact ⟨h.pval, fun c hc => (h.blocks c hc).2, hcompat,
      fun hz => mem_sig_types.mp (h.age hz), by simp [Bundle.payload, hfind, hpd]⟩
  · exact C01.decode_encode b (b.wf_iff.2 ⟨h.pwf, fun c hc => (h.blocks c hc).1⟩)

theorem blockOk_of_same_flags {p : Primary} {c c' : Canon} (h : blockOk p c) (hf : c'.flags = c.flags)
    (hw : c'.wf = true) (he : c'.extOk = true) : blockOk p c' := by
  refine ⟨hw, (C07.canon_validate_iff c').mpr ⟨?_, he⟩, ?_⟩
  · rw [hf]; exact ((C07.canon_validate_iff c).mp h.2.1).1
  · rw [hf]; exact h.2.2

theorem blockOk_setData {p : Primary} {c : Canon} (h : blockOk p c) {d : CData}
    (hk : match c.data, d with
      | .data _, .data _ => True
      | .age _, .age a => a < U64
      | .hop l _, .hop l' n => l' = l ∧ n < 256
      | .prev _, .prev e => e.wf = true ∧ eidOk e = true
      | _, _ => False)
    (hl : (btsd d).length < U64) : blockOk p { c with data := d } := by
  refine blockOk_of_same_flags h rfl ?_ ?_
  · have hw := h.1
    simp only [Canon.wf, Bool.and_eq_true, decide_eq_true_eq] at hw ⊢
    -- the bounds on type, number, flags and CRC value are those of `c`
    refine ⟨⟨hw.1.1, hl⟩, ?_⟩
    split at hk <;> simp_all only [Bool.and_eq_true, decide_eq_true_eq, and_self]
  · have he := extOk_of_blockOk h
    unfold Canon.extOk at he ⊢
    split at hk <;> simp_all only [Bool.and_eq_true, and_self]

theorem blockOk_bumpHop (p : Primary) (c : Canon) (h : blockOk p c) : blockOk p (bumpHop c) := by
  unfold bumpHop
  split
  next l n hd =>
    refine blockOk_setData h (by rw [hd]; exact ⟨rfl, by omega⟩) ?_
    have h1 := encHead_length_le 4 2
    have h2 := encHead_length_le 0 l
    have h3 := encHead_length_le 0 (min (n + 1) 255)
    simp only [btsd, encCData, encArrayHead, encUint, List.length_append, U64_eq]
    omega
  next => exact h

theorem blockOk_setPrev (p : Primary) (node : Eid) (hn : node.wf = true) (hv : eidOk node = true)
    (hl : (encEid node).length < U64) (c : Canon) (h : blockOk p c) : blockOk p (setPrev node c) := by
  unfold setPrev
  split
  next e hd => exact blockOk_setData h (by rw [hd]; exact ⟨hn, hv⟩) hl
  next => exact h

theorem blockOk_addAge (p : Primary) (rt : Nat) (c : Canon) (h : blockOk p c) : blockOk p (addAge rt c) := by
  unfold addAge
  split
  next a hd =>
    refine blockOk_setData h (by rw [hd, U64_eq]; omega) ?_
    exact Nat.lt_of_le_of_lt (encHead_length_le 0 _) (by decide)
  next => exact h

theorem blockOk_setNum (p : Primary) (c : Canon) (n : Nat) (hn : n < U64) (ht : c.btype ≠ 1)
    (h : blockOk p c) : blockOk p { c with num := n } := by
  have hw := h.1
  have he := extOk_of_blockOk h
  simp only [Canon.wf, Bool.and_eq_true, decide_eq_true_eq, and_assoc] at hw
  refine blockOk_of_same_flags h rfl ?_ ?_
  · simp only [Canon.wf, Bool.and_eq_true, decide_eq_true_eq, and_assoc]
    exact ⟨hw.1, hn, hw.2.2⟩
  · -- extension validation looks at the number of a payload block only
    revert he
    unfold Canon.extOk
    cases c.data <;> simp [PAYLOAD_BLOCK, ht]

theorem sorted_of_inv {b : Bundle} (h : Inv b) : b.canon.Pairwise (fun x y => x.num ≥ y.num) :=
  ((sinv_iff b.canon).mp h.s).2.1

theorem inv_same_sig {b : Bundle} (h : Inv b) (x : CrcVal)
    (hx : ({ b.primary with crc := x } : Primary).wf = true) (l : List Canon)
    (hs : sig l = sig b.canon) (hb : ∀ c ∈ l, blockOk b.primary c) :
    Inv { primary := { b.primary with crc := x }, canon := l } :=
  { pwf := hx, pval := h.pval, s := hs ▸ h.s, blocks := hb, age := hs ▸ h.age }

theorem inv_updFirst (b : Bundle) (h : Inv b) (q : Canon → Bool) (f : Canon → Canon)
    (hs : ∀ c, (f c).btype = c.btype ∧ (f c).num = c.num)
    (hb : ∀ c, blockOk b.primary c → blockOk b.primary (f c)) :
    Inv { b with canon := updFirst q f b.canon } :=
  inv_same_sig h b.primary.crc h.pwf _ (updFirst_sig q f hs _) (updFirst_all _ q f (fun c _ => hb c) _ h.blocks)

theorem inv_upd (b : Bundle) (h : Inv b) (node : Eid) (rt now : Nat) (hn : node.wf = true)
    (hv : eidOk node = true) (hl : (encEid node).length < U64) :
    Inv (b.updateExtensions node rt now).bundle := by
  have h1 := inv_updFirst b h isHop bumpHop bumpHop_sig (blockOk_bumpHop _)
  have h2 := inv_updFirst _ h1 isPrev (setPrev node) (setPrev_sig node) (blockOk_setPrev _ node hn hv hl)
  have h3 := inv_updFirst _ h2 isAge (addAge rt) (addAge_sig rt) (blockOk_addAge _ rt)
  rw [updateExtensions_bundle]
  split
  · exact h1
  · exact h3

theorem inv_mapCrc (b : Bundle) (h : Inv b) (x : CrcVal) (g : Canon → CrcVal) (hx : x.known = true)
    (hg : ∀ c ∈ b.canon, (g c).known = true) : Inv (mapCrc b x g) := by
  -- `wf` asks of a stored CRC value only that its type is known
  refine inv_same_sig h x ((Primary.wf_iff _).2 ⟨b.primary.wfF_of_wf h.pwf, hx⟩) _
    (by simp [sig, List.map_map, Function.comp_def]) ?_
  intro c hc
  obtain ⟨c0, hc0, rfl⟩ := List.mem_map.mp hc
  have h0 := h.blocks c0 hc0
  exact blockOk_of_same_flags h0 rfl ((Canon.wf_iff _).2 ⟨c0.wfF_of_wf h0.1, hg c0 hc0⟩)
    (show c0.extOk = true from extOk_of_blockOk h0)

theorem inv_setCrc (b : Bundle) (h : Inv b) (t : Nat) (ht : t ≤ 2) : Inv (b.setCrc t) := by
  have hk : (CrcVal.ofType t).known = true := by
    have : t = 0 ∨ t = 1 ∨ t = 2 := by omega
    rcases this with rfl | rfl | rfl <;> rfl
  exact setCrc_eq_mapCrc b t ▸ inv_mapCrc b h _ _ hk fun _ _ => hk

/-- encoding the object itself only rewrites stored CRC values: the invariant survives -/
theorem inv_tocbor (b : Bundle) (h : Inv b) : Inv (b.toCbor).1 :=
  toCbor_eq_mapCrc b ▸ inv_mapCrc b h _ _
    (CrcVal.calculate_known _ _ (b.primary.wf_iff.1 h.pwf).2)
    fun c hc => CrcVal.calculate_known _ _ (c.wf_iff.1 (h.blocks c hc).1).2

theorem inv_insert (b : Bundle) (h : Inv b) (c : Canon) (hc : blockOk b.primary c) (ht : c.btype ≠ 1)
    (hn : 2 ≤ c.num) (hcompat : ∀ x ∈ b.canon, C07.Spec.compatible c x) :
    Inv { b with canon := insertDesc c b.canon } := by
  obtain ⟨⟨init, p, hl, hpt, hpn, hinit⟩, hsorted, hpw⟩ := (sinv_iff b.canon).mp h.s
  refine { pwf := h.pwf, pval := h.pval, blocks := ?_, age := ?_,
           s := (sinv_iff _).mpr ⟨⟨insertDesc c init, p, ?_, hpt, hpn, ?_⟩, insertDesc_sorted c b.canon hsorted, ?_⟩ }
  · show insertDesc c b.canon = _
    rw [hl, insertDesc_before_last c init p (by omega)]
  · intro x hx
    rcases (mem_insertDesc c x init).mp hx with rfl | hx
    · exact ⟨ht, hn⟩
    · exact hinit x hx
  · -- compatibility is symmetric: it holds of every permutation of `c :: b.canon`
    refine ((insertDesc_perm c b.canon).pairwise_iff ?_).mpr (List.pairwise_cons.mpr ⟨hcompat, hpw⟩)
    exact fun ⟨h1, h2⟩ => ⟨h1.symm, fun ⟨he, hy⟩ => h2 ⟨he.symm, he ▸ hy⟩⟩
  · intro x hx
    rcases (mem_insertDesc c x b.canon).mp hx with rfl | hx
    · exact hc
    · exact h.blocks x hx
  · intro hz
    obtain ⟨y, hy, hy1⟩ := mem_sig_types.mp (h.age hz)
    exact mem_sig_types.mpr ⟨y, (mem_insertDesc c y _).mpr (Or.inr hy), hy1⟩

/-- `add_canonical_block` refuses a second payload block and a second block of a managed type: what it
    inserts shares none of the types 6, 7, 10 with a block already there -/
theorem addBlock_of_inv (b : Bundle) (h : Inv b) (c : Canon) :
    b.addBlock c = b ∨ (c.btype ≠ 1 ∧
      (∀ x ∈ b.canon, ¬ (c.btype = x.btype ∧ (x.btype = 6 ∨ x.btype = 7 ∨ x.btype = 10))) ∧
      b.addBlock c = { b with canon := insertDesc { c with num := nextBlockNumber b.canon } b.canon }) := by
  unfold Bundle.addBlock
  split
  · exact Or.inl rfl
  · rename_i hcond
    have hfree : isManagedType c.btype = true → ∀ x ∈ b.canon, x.btype ≠ c.btype := by
      intro hm x hx he
      exact hcond (by simp [hm, (C07.blockByType_isSome b (fun c hc => extOk_of_blockOk (h.blocks c hc)) c.btype).mpr ⟨x, hx, he⟩])
    obtain ⟨init, p, d, hl, hpt, -⟩ := payload_of_inv b h
    have hne : c.btype ≠ 1 := fun he =>
      hfree (by simp [he, isManagedType, PAYLOAD_BLOCK]) p (by simp [hl]) (hpt.trans he.symm)
    refine Or.inr ⟨hne, fun x hx ⟨he, hs⟩ => hfree ?_ x hx he.symm, ?_⟩
    · -- 6, 7 and 10 are managed types
      rw [he]
      rcases hs with hs | hs | hs <;> rw [hs] <;> rfl
    · have hpb : (c.btype == PAYLOAD_BLOCK) = false := by simpa [PAYLOAD_BLOCK] using hne
      simp only [hpb, Bool.false_eq_true, if_false]
      rw [sortDesc_snoc b.canon _ (sorted_of_inv h)]

/-- **C11 (add_canonical_block).** -/
theorem inv_add (b : Bundle) (h : Inv b) (c : Canon) (hok : OpOk b.primary (.add c))
    (hlen : b.canon.length + 2 < U64) : Inv (b.addBlock c) := by
  rcases addBlock_of_inv b h c with he | ⟨hne, hsingle, he⟩
  · rw [he]; exact h
  · rw [he]
    obtain ⟨h2, hlt, hfresh⟩ := nextBlockNumber_spec b.canon hlen
    exact inv_insert b h _ (blockOk_setNum _ c _ hlt hne ⟨hok.1, hok.2.resolve_left hne⟩) hne h2
      fun x hx => ⟨(hfresh x hx).symm, hsingle x hx⟩

/-- the number a caller put on the payload block is irrelevant: it is forced to 1 -/
theorem setPayloadBlock_num (b : Bundle) (n f : Nat) (d : Bytes) :
    b.setPayloadBlock (payloadBlockReq n f d) = b.setPayloadBlock (newPayloadBlock f d) := by
  rw [setPayloadBlock_eq _ _ rfl, setPayloadBlock_eq _ _ rfl]; rfl

theorem setPayloadBlock_of_inv (b : Bundle) (h : Inv b) (c : Canon) (hc : c.btype = PAYLOAD_BLOCK) :
    b.setPayloadBlock c = { b with canon := b.canon.dropLast ++ [{ c with num := 1 }] } := by
  obtain ⟨init, p, -, hl, hpt, -, -, hinit, -⟩ := payload_of_inv b h
  have hs := sorted_of_inv h
  rw [hl] at hs
  have hfil : b.canon.filter (fun x => x.btype != PAYLOAD_BLOCK) = init := by
    rw [hl, List.filter_append,
      List.filter_eq_self.mpr (fun c hc => by simpa [PAYLOAD_BLOCK] using (hinit c hc).1)]
    simp [hpt, PAYLOAD_BLOCK]
  -- the new block has the smallest number: sorting puts it last
  rw [setPayloadBlock_eq b c hc, hfil, sortDesc_snoc init _ (List.pairwise_append.mp hs).1, insertDesc_at_end,
    hl, List.dropLast_concat]
  intro y hy
  have := (hinit y hy).2
  show ¬ y.num < 1
  omega

/-- `set_payload` and `set_payload_block` both put a payload block in the place of the last block -/
theorem inv_replace_payload (b : Bundle) (h : Inv b) (c : Canon) (d : Bytes) (hc : blockOk b.primary c)
    (hct : c.btype = 1) (hcd : c.data = .data d) :
    Inv { b with canon := b.canon.dropLast ++ [c] } ∧
    ({ b with canon := b.canon.dropLast ++ [c] } : Bundle).payload = some d ∧
    (b.canon.dropLast ++ [c]).length = b.canon.length := by
  obtain ⟨init, p, -, hl, hpt, hpn, -, hinit, -⟩ := payload_of_inv b h
  obtain ⟨-, -, hcn⟩ := payload_of_blockOk hc hct
  rw [hl, List.dropLast_concat]
  refine ⟨inv_same_sig h b.primary.crc h.pwf _ (by simp [hl, sig, hct, hcn, hpt, hpn]) ?_, ?_, by simp⟩
  · intro x hx
    rcases List.mem_append.mp hx with hx | hx
    · exact h.blocks x (by simp [hl, hx])
    · rw [List.mem_singleton.mp hx]; exact hc
  · simp [Bundle.payload, blockByType_last b.primary init c (fun c hc => (hinit c hc).1) hct (extOk_of_blockOk hc), hcd]

/-- **C11 (set_payload_block).** The (type, number) list is unchanged. -/
theorem inv_setPayloadBlock (b : Bundle) (h : Inv b) (f : Nat) (d : Bytes)
    (hok : OpOk b.primary (.setPayloadBlock 1 f d)) :
    Inv (b.setPayloadBlock (newPayloadBlock f d)) ∧
    (b.setPayloadBlock (newPayloadBlock f d)).payload = some d ∧
    (b.setPayloadBlock (newPayloadBlock f d)).canon.length = b.canon.length := by
  obtain ⟨hf, hdl, hloc⟩ := hok
  rw [setPayloadBlock_of_inv b h _ rfl]
  refine inv_replace_payload b h _ d ⟨?_, hloc⟩ rfl rfl
  simp only [Canon.wf, newPayloadBlock, Bool.and_eq_true, btsd, and_assoc]
  exact ⟨rfl, rfl, decide_eq_true hf, rfl, decide_eq_true hdl, rfl⟩

/-- **C11 (set_payload).** -/
theorem inv_setPayload (b : Bundle) (h : Inv b) (d : Bytes) (hd : d.length < U64) :
    Inv (b.setPayload d) ∧ (b.setPayload d).payload = some d ∧ (b.setPayload d).canon.length = b.canon.length := by
  obtain ⟨init, p, d0, hl, hpt, -, hpd, hinit, hfind⟩ := payload_of_inv b h
  have hp := h.blocks p (by simp [hl])
  have : b.setPayload d = { b with canon := b.canon.dropLast ++ [{ p with data := .data d }] } := by
    simp only [Bundle.setPayload, hfind, Option.isSome_some, if_true]
    rw [hl, updFirst_append _ _ _ _ (fun c hc => by simp [PAYLOAD_BLOCK, (hinit c hc).1])]
    simp [updFirst, hpt, PAYLOAD_BLOCK, extOk_of_blockOk hp]
  rw [this]
  exact inv_replace_payload b h _ d (blockOk_setData hp (d := .data d) (by rw [hpd]; trivial) hd) hpt rfl

theorem payload_add (b : Bundle) (h : Inv b) (c : Canon) :
    (b.addBlock c).payload = b.payload ∧ (b.addBlock c).canon.length ≤ b.canon.length + 1 := by
  rcases addBlock_of_inv b h c with he | ⟨hne, -, he⟩
  · rw [he]; exact ⟨rfl, by omega⟩
  · rw [he]
    refine ⟨?_, by simp [length_insertDesc]⟩
    unfold Bundle.payload Bundle.blockByType
    simp only
    rw [find?_insertDesc_other]
    simp [PAYLOAD_BLOCK, hne]

theorem payload_upd (b : Bundle) (node : Eid) (rt now : Nat) :
    (b.updateExtensions node rt now).bundle.payload = b.payload ∧
    (b.updateExtensions node rt now).bundle.canon.length = b.canon.length := by
  have e1 := find?_updFirst_type PAYLOAD_BLOCK HOP_COUNT_BLOCK (by decide) isHop bumpHop isHop_btype
    (fun c => (bumpHop_sig c).1)
  have e2 := find?_updFirst_type PAYLOAD_BLOCK PREVIOUS_NODE_BLOCK (by decide) isPrev (setPrev node) isPrev_btype
    (fun c => (setPrev_sig node c).1)
  have e3 := find?_updFirst_type PAYLOAD_BLOCK BUNDLE_AGE_BLOCK (by decide) isAge (addAge rt) isAge_btype
    (fun c => (addAge_sig rt c).1)
  rw [updateExtensions_bundle]
  split <;> unfold Bundle.payload Bundle.blockByType <;> simp only [e1, e2, e3, length_updFirst, and_self]

/-- the payload a step leaves behind -/
def payloadAfter (cur : Option Bytes) : Op → Option Bytes
  | .setPayload d => some d
  | .setPayloadBlock _ _ d => some d
  | _ => cur

theorem step_primary (b : Bundle) (op : Op) : ∃ x, (step b op).primary = { b.primary with crc := x } := by
  cases op with
  | add c => exact ⟨b.primary.crc, addBlock_primary b c⟩
  | setPayload d => exact ⟨b.primary.crc, setPayload_primary b d⟩
  | setPayloadBlock n f d => exact ⟨b.primary.crc, addBlock_primary _ _⟩
  | setCrc t => exact ⟨CrcVal.ofType t, rfl⟩
  | upd node rt now => exact ⟨b.primary.crc, by simp only [step, updateExtensions_bundle]⟩
  | tocbor => exact ⟨b.primary.calcCrc, rfl⟩

theorem opOk_crc (p : Primary) (x : CrcVal) (op : Op) : OpOk { p with crc := x } op ↔ OpOk p op := by
  cases op <;> exact Iff.rfl

/-- **C11 (one step).** Every mutator, with any argument of the property's domain, preserves the
    invariant; the payload afterwards is the one just set, or the previous one. -/
theorem inv_step (b : Bundle) (h : Inv b) (op : Op) (hok : OpOk b.primary op)
    (hlen : b.canon.length + 2 < U64) :
    Inv (step b op) ∧ (step b op).payload = payloadAfter b.payload op ∧
    (step b op).canon.length ≤ b.canon.length + 1 := by
  -- only `add` changes the number of blocks
  have keep : ∀ {b' : Bundle} {x : Option Bytes},
      Inv b' ∧ b'.payload = x ∧ b'.canon.length = b.canon.length →
      Inv b' ∧ b'.payload = x ∧ b'.canon.length ≤ b.canon.length + 1 :=
    fun ⟨h1, h2, h3⟩ => ⟨h1, h2, h3 ▸ Nat.le_succ _⟩
  cases op with
  | add c => exact ⟨inv_add b h c hok hlen, payload_add b h c⟩
  | setPayload d => exact keep (inv_setPayload b h d hok)
  | setPayloadBlock n f d =>
    simp only [step, setPayloadBlock_num]
    exact keep (inv_setPayloadBlock b h f d hok)
  | setCrc t => exact keep ⟨inv_setCrc b h t hok, payload_mapCrc b (.ofType t) fun _ => .ofType t⟩
  | upd node rt now => exact keep ⟨inv_upd b h node rt now hok.1 hok.2.1 hok.2.2, payload_upd b node rt now⟩
  | tocbor => exact keep ⟨inv_tocbor b h, payload_mapCrc b b.primary.calcCrc Canon.calcCrc⟩

def lastSet (cur : Option Bytes) (ops : List Op) : Option Bytes := ops.foldl payloadAfter cur

/-- **C11 (any history).** From any bundle satisfying the invariant, after any sequence of
    mutations — of any length — the invariant holds and the payload read back is the one most
    recently set. (Last hypothesis: the block list stays shorter than 2^64 − 2 blocks.) -/
theorem run_inv (ops : List Op) : ∀ (b : Bundle), Inv b → (∀ op ∈ ops, OpOk b.primary op) →
    b.canon.length + ops.length + 2 < U64 →
    Inv (run b ops) ∧ (run b ops).payload = lastSet b.payload ops := by
  induction ops with
  | nil => intro b h _ _; exact ⟨h, rfl⟩
  | cons op ops ih =>
    intro b h hok hlen
    rw [List.length_cons] at hlen
    obtain ⟨h1, h2, h3⟩ := inv_step b h op (hok op (by simp)) (by omega)
    obtain ⟨x, hx⟩ := step_primary b op
    have := ih (step b op) h1
      (fun o ho => by rw [hx]; exact (opOk_crc b.primary x o).mpr (hok o (by simp [ho]))) (by omega)
    simp only [run, lastSet, List.foldl_cons] at this ⊢
    rw [h2] at this
    exact this

/-- **C11.** The property as stated: after any sequence of mutations all clauses hold. -/
theorem mutations_preserve (b : Bundle) (ops : List Op) (h : Inv b) (hok : ∀ op ∈ ops, OpOk b.primary op)
    (hlen : b.canon.length + ops.length + 2 < U64) :
    let r := run b ops
    (r.canon.map (·.num)).Pairwise (· > ·)
    ∧ (r.canon.map (·.num)).Nodup ∧ (∀ c ∈ r.canon, c.num ≠ 0)
    ∧ (∃ init p, r.canon = init ++ [p] ∧ p.btype = 1 ∧ p.num = 1 ∧ ∀ c ∈ init, c.btype ≠ 1)
    ∧ (∀ t, t = 6 ∨ t = 7 ∨ t = 10 → (r.canon.map (·.btype)).count t ≤ 1)
    ∧ r.payload = lastSet b.payload ops
    ∧ r.validate = []
    ∧ decodeBundle (r.toCbor).2 = .ok (r.toCbor).1 := by
  obtain ⟨hi, hp⟩ := run_inv ops b h hok hlen
  obtain ⟨f1, f2, f3, f4, f5, f6, f7⟩ := inv_facts (run b ops) hi
  exact ⟨f1, f2, f3, f4, f5, hp, f6, f7⟩

theorem inv_of_valid (b : Bundle) (hwf : b.wf = true) (hv : b.validate = [])
    (hsorted : b.canon.Pairwise (fun x y => x.num ≥ y.num))
    {init : List Canon} {pl : Canon} {d : Bytes} (hsplit : b.canon = init ++ [pl]) (hpd : pl.data = .data d) :
    Inv b := by
  have hwf := b.wf_iff.1 hwf
  obtain ⟨hpv, hloc, hcompat, hage, -⟩ := (C07.validate_nil_iff b).mp hv
  have hblocks : ∀ c ∈ b.canon, blockOk b.primary c := fun c hc => ⟨hwf.2 c hc, hloc c hc⟩
  have hple := extOk_of_blockOk (hblocks pl (by simp [hsplit]))
  have hplt : pl.btype = 1 ∧ pl.num = 1 := by
    unfold Canon.extOk at hple
    simpa [hpd, PAYLOAD_BLOCK] using hple
  have hinit : ∀ c ∈ init, c.btype ≠ 1 ∧ 2 ≤ c.num := by
    intro c hc
    obtain ⟨hge, hne, -⟩ := (List.pairwise_append.mp (hsplit ▸ hsorted.and hcompat)).2.2 c hc pl (by simp)
    -- a second payload-typed block would also carry the number 1
    refine ⟨fun ht => ?_, by omega⟩
    obtain ⟨_, _, hn⟩ := payload_of_blockOk (hblocks c (by simp [hsplit, hc])) ht
    omega
  exact { pwf := hwf.1, pval := hpv, blocks := hblocks, age := fun hz => mem_sig_types.mpr (hage hz),
          s := (sinv_iff b.canon).mpr ⟨⟨init, pl, hsplit, hplt.1, hplt.2, hinit⟩, hsorted, hcompat⟩ }

/-- **C11 (starting point).** A well-formed bundle that the builder returned and that validates
    satisfies the invariant. -/
theorem inv_of_built (p : Primary) (cs : List Canon) (b : Bundle) (hb : buildBundle p cs = .ok b)
    (hwf : b.wf = true) (hv : b.validate = []) : Inv b := by
  unfold buildBundle at hb
  simp only at hb
  cases hlast : (sortDesc cs).getLast? with
  | none => simp [hlast] at hb
  | some pl =>
    simp only [hlast] at hb
    cases hpd : pl.data with
    | data d =>
      simp only [hpd, Res.ok.injEq] at hb
      subst hb
      obtain ⟨init, hsplit⟩ := List.getLast?_eq_some_iff.mp hlast
      exact inv_of_valid _ hwf hv (sortDesc_sorted cs) hsplit hpd
    | _ => simp [hpd] at hb

/-! ### non-vacuity: a concrete bundle satisfies `Inv`, a concrete history satisfies `OpOk` -/

def b0 : Bundle :=
  { primary := { version := 7, flags := 0, crc := .no,
                 dst := .dtn 1 [47, 47, 110, 50, 47, 105, 110], src := .ipn 2 23 42, rpt := .null 1 0,
                 ts := 0, seq := 0, lifetime := 3600000, fragOff := 0, total := 0 },
    canon := [ { btype := 7, num := 2, flags := 0, crc := .no, data := .age 0 },
               { btype := 1, num := 1, flags := 0, crc := .no, data := .data [104, 105] } ] }

def ops0 : List Op :=
  [ .add { btype := 10, num := 99, flags := 0, crc := .no, data := .hop 32 0 },
    .add { btype := 10, num := 7, flags := 0, crc := .no, data := .hop 1 1 },
    .add { btype := 192, num := 2, flags := 1, crc := .empty16, data := .unknown [1, 2, 3] },
    .setPayload [1, 2, 3],
    .setCrc 2,
    .setPayloadBlock 0 0 [9],
    .upd (.ipn 2 5 0) 10 1000 ]

theorem inv_b0 : Inv b0 :=
  inv_of_valid b0 (by decide) (by decide) (by decide) (init := [_]) rfl rfl

theorem ops0_ok : ∀ op ∈ ops0, OpOk b0.primary op := by
  intro op hop
  simp only [ops0, List.mem_cons, List.mem_nil_iff, or_false] at hop
  rcases hop with rfl | rfl | rfl | rfl | rfl | rfl | rfl
  iterate 3 exact ⟨by decide, Or.inr ⟨by decide, by decide⟩⟩
  · show (3 : Nat) < U64; decide
  · show (2 : Nat) ≤ 2; decide
  · exact ⟨by decide, by decide, by decide, by decide⟩
  · exact ⟨by decide, by decide, by decide⟩

example : ((run b0 ops0).canon.map (fun c => (c.btype, c.num))) = [(192, 4), (10, 3), (7, 2), (1, 1)] := by decide
example : (run b0 ops0).payload = some [9] := (run_inv ops0 b0 inv_b0 ops0_ok (by decide)).2

end Bp7.C11
