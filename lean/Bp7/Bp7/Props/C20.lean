/-
  C20 — the command-line tool agrees with the library.
  Theorems about the model of src/main.rs (Bp7/Model/Cli.lean); the model is tied to the real
  `bp7` binary by running it (correspondence check, harness/src/p_cli.rs).
-/
import Bp7.Model.Cli
import Bp7.Props.C01
import Bp7.Props.C10
import Bp7.Props.C18
namespace Bp7.C20
open Bp7 Bp7.Cli

/-- the bundle `generate_bundle` builds from a primary block without CRC -/
def built (p : Primary) (payload : Bytes) : Bundle := { primary := p, canon := [newPayloadBlock 0 payload] }

theorem setCrc0 (p : Primary) (payload : Bytes) (hc : p.crc = .no) : (built p payload).setCrc 0 = built p payload := by
  cases p; simp only at hc; subst hc; rfl

theorem built_wf (p : Primary) (payload : Bytes) (hp : p.wf = true) (hl : payload.length < U64) :
    (built p payload).wf = true := by
  -- of the payload block's conditions all are about literals but the one on the length
  rw [U64_eq] at hl
  simp [Bundle.wf, built, hp, Canon.wf, newPayloadBlock, btsd, PAYLOAD_BLOCK, U64_eq, hl, CrcVal.known]

theorem built_toCbor (p : Primary) (payload : Bytes) (hc : p.crc = .no) :
    ((built p payload).toCbor).1 = built p payload :=
  Bundle.calculateCrc_of_no (built p payload) hc (by simp [built, newPayloadBlock])

theorem built_payload (p : Primary) (payload : Bytes) : (built p payload).payload = some payload := by
  simp [Bundle.payload, Bundle.blockByType, built, newPayloadBlock, Canon.extOk, PAYLOAD_BLOCK]

/-- For a primary block without CRC `generate_bundle` works on `built p payload` itself:
    its `set_crc(NO_CRC)` changes nothing. -/
theorem generate_eq (p : Primary) (payload : Bytes) (hex : Bool) (hc : p.crc = .no) :
    generate p payload hex = if (built p payload).validate ≠ [] then .panic
      else .ok (if hex then hexify (built p payload).toCbor.2 ++ [10] else (built p payload).toCbor.2) := by
  rw [generate, ← built, setCrc0 p payload hc]

/-- **C20 (encode, raw and hex).** For every primary block without CRC of the C01 domain and every
    payload: either the tool refuses (the bundle would not validate; exit 101, nothing printed) or
    it prints bytes that decode to exactly that primary block and payload and validate; the hex
    mode prints the lower-case hex form of the same bytes and a newline, which `unhexify` maps back. -/
theorem generate_spec (p : Primary) (payload : Bytes) (hp : p.wf = true) (hc : p.crc = .no)
    (hl : payload.length < U64) :
    (generate p payload false = .panic ∧ generate p payload true = .panic ∧ (built p payload).validate ≠ [])
    ∨ (∃ bytes, generate p payload false = .ok bytes
        ∧ generate p payload true = .ok (hexify bytes ++ [10])
        ∧ unhexify (hexify bytes) = .ok bytes
        ∧ decodeBundle bytes = .ok (built p payload)
        ∧ (built p payload).validate = []
        ∧ (built p payload).payload = some payload) := by
  simp only [generate_eq p payload _ hc]
  by_cases hv : (built p payload).validate = []
  · have hd := C01.decode_encode (built p payload) (built_wf p payload hp hl)
    rw [built_toCbor p payload hc] at hd
    exact .inr ⟨_, if_neg (not_not_intro hv), if_neg (not_not_intro hv), C18.unhex_hex _, hd, hv, built_payload p payload⟩
  · exact .inl ⟨if_pos hv, if_pos hv, hv⟩

/-- **C20 (manifest → primary block).** What `manifest_to_primary` returns carries the fields of the
    builder the manifest's entries were folded into, the fixed version and CRC type, and the given
    creation timestamp; it refuses a manifest without destination. -/
theorem manifest_fields (manifest : Bytes) (ts seq : Nat) (p : Primary)
    (h : manifestToPrimary manifest ts seq = .ok p) :
    ∃ b, applyEntries (entriesOf manifest) {} = .ok b ∧ b.dst ≠ Eid.dtnNone ∧
      p.version = 7 ∧ p.crc = .no ∧ p.ts = ts ∧ p.seq = seq ∧ p.fragOff = 0 ∧ p.total = 0 ∧
      p.dst = b.dst ∧ p.src = b.src ∧ p.rpt = b.rpt ∧ p.flags = b.flags ∧ p.lifetime = millisOf b.lifetime := by
  unfold manifestToPrimary at h
  split at h
  · cases h
  split at h
  · next b hb =>
    split at h
    · cases h
    · cases h; exact ⟨b, hb, ‹_›, rfl, rfl, rfl, rfl, rfl, rfl, rfl, rfl, rfl, rfl, rfl⟩
  · cases h
  · cases h

/-! Comparing the key strings is evaluation; `rfl` identifies the `match` of the statement with
    that of the definition. -/

theorem applyEntry_destination (b : Builder) (v : Bytes) : applyEntry b (asc "destination") v =
    match parseEid v with | .ok e => .ok { b with dst := e } | _ => .panic := by
  rw [applyEntry, if_pos rfl, eidOrPanic]
  cases parseEid v <;> rfl

theorem applyEntry_lifetime (b : Builder) (v : Bytes) : applyEntry b (asc "lifetime") v =
    match parseDuration v with
    | .ok d => .ok { b with lifetime := d }
    | .error .unmodelled => .unmodelled
    | .error _ => .panic := by
  simp [applyEntry, asc]; rfl

theorem applyEntry_flags (b : Builder) (v : Bytes) : applyEntry b (asc "flags") v =
    match parseU64 v with | some f => .ok { b with flags := f } | none => .panic := by
  simp [applyEntry, asc]; rfl

/-- one manifest entry sets exactly its field, from the library's own parser -/
theorem entry_destination (b b' : Builder) (v : Bytes) (h : applyEntry b (asc "destination") v = .ok b') :
    parseEid v = .ok b'.dst ∧ b'.src = b.src ∧ b'.rpt = b.rpt ∧ b'.flags = b.flags ∧ b'.lifetime = b.lifetime := by
  rw [applyEntry_destination] at h
  split at h <;> cases h
  exact ⟨‹_›, rfl, rfl, rfl, rfl⟩

theorem entry_flags (b b' : Builder) (v : Bytes) (h : applyEntry b (asc "flags") v = .ok b') :
    parseU64 v = some b'.flags ∧ b'.dst = b.dst ∧ b'.src = b.src ∧ b'.rpt = b.rpt ∧ b'.lifetime = b.lifetime := by
  rw [applyEntry_flags] at h
  split at h <;> cases h
  exact ⟨‹_›, rfl, rfl, rfl, rfl⟩

theorem entry_lifetime (b b' : Builder) (v : Bytes) (h : applyEntry b (asc "lifetime") v = .ok b') :
    parseDuration v = .ok b'.lifetime ∧ b'.dst = b.dst ∧ b'.src = b.src ∧ b'.rpt = b.rpt ∧ b'.flags = b.flags := by
  rw [applyEntry_lifetime] at h
  split at h <;> cases h
  exact ⟨‹_›, rfl, rfl, rfl, rfl⟩

/-- **C20 (encode, whole command).** -/
theorem encode_spec (manifest payload : Bytes) (ts seq : Nat) (p : Primary)
    (hm : manifestToPrimary manifest ts seq = .ok p) (hp : p.wf = true) (hl : payload.length < U64) :
    (encode manifest payload false ts seq = .panic ∧ encode manifest payload true ts seq = .panic)
    ∨ (∃ bytes, encode manifest payload false ts seq = .ok bytes
        ∧ encode manifest payload true ts seq = .ok (hexify bytes ++ [10])
        ∧ unhexify (hexify bytes) = .ok bytes
        ∧ decodeBundle bytes = .ok (built p payload)
        ∧ (built p payload).validate = []
        ∧ (built p payload).payload = some payload) := by
  obtain ⟨_, _, _, _, hc, _⟩ := manifest_fields manifest ts seq p hm
  simp only [encode, hm]
  exact (generate_spec p payload hp hc hl).imp (fun h => ⟨h.1, h.2.1⟩) id

/-- **C20 (decode -p).** Applied to the encoding of any bundle of the C01 domain — raw on stdin or
    as hex argument — the tool prints exactly the payload bytes (nothing when there is none). -/
theorem decode_payload_spec (b : Bundle) (h : b.wf = true) :
    decodePayload (b.toCbor).2 = .ok (b.payload.getD []) ∧
    decodeArg (hexify (b.toCbor).2) = .ok (b.payload.getD []) := by
  -- `to_cbor` only renews the stored CRC values, which the payload query does not look at
  have hp : (b.toCbor).1.payload = b.payload := toCbor_eq_mapCrc b ▸ (payload_mapCrc b _ _).1
  have h1 : decodePayload (b.toCbor).2 = .ok (b.payload.getD []) := by
    simp only [decodePayload, C01.decode_encode b h, hp]
    cases b.payload <;> rfl
  refine ⟨h1, ?_⟩
  rw [decodeArg, C18.unhex_hex]
  exact h1

/-- **C20 (dtntime, d2u).** For every u64 timestamp given in decimal the tool prints the library's
    conversion followed by a newline. -/
theorem time_cmds (t : Nat) (h : t < U64) :
    dtntimeCmd (decStr t) = .ok (dtnString t ++ [10]) ∧ d2uCmd (decStr t) = .ok (decStr (dtnUnix t) ++ [10]) := by
  simp [dtntimeCmd, d2uCmd, C10.parseU64_decStr t h]

theorem encode_mode (n : Nat) (last : Bytes) :
    encodeMode n last = (if n = 4 then some false else if n = 5 then some (decide (last = asc "-x")) else none) := rfl

theorem decode_mode (n : Nat) (last : Bytes) :
    decodeMode n last = (if n = 3 then some false else if n = 4 then some (decide (last = asc "-p")) else none) := rfl

/-! ### non-vacuity: a manifest in the style of the README -/

/-- "destination=dtn://node2/inbox\nsource=dtn://node1/123456\nlifetime=1h\nflags=4\n" -/
def readmeBytes : Bytes :=
  [100,101,115,116,105,110,97,116,105,111,110,61,100,116,110,58,47,47,110,111,100,101,50,47,105,110,98,111,120,10,
   115,111,117,114,99,101,61,100,116,110,58,47,47,110,111,100,101,49,47,49,50,51,52,53,54,10,
   108,105,102,101,116,105,109,101,61,49,104,10,102,108,97,103,115,61,52,10]

def readmeP : Primary :=
  { version := 7, flags := 4, crc := .no, dst := .dtn 1 [47,47,110,111,100,101,50,47,105,110,98,111,120],
    src := .dtn 1 [47,47,110,111,100,101,49,47,49,50,51,52,53,54], rpt := .null 1 0, ts := 1000, seq := 0,
    lifetime := 3600000, fragOff := 0, total := 0 }

example : manifestToPrimary readmeBytes 1000 0 = .ok readmeP := by decide +kernel
example : readmeP.wf = true := by decide
example : (built readmeP [104, 105]).validate = [] := by decide
example : (match parseDuration [49, 104, 32, 51, 48, 109] with | .ok d => d == (5400, 0) | _ => false) = true := by decide +kernel   -- "1h 30m"
example : (match parseDuration [49, 53] with | .error .error => true | _ => false) = true := by decide +kernel   -- "15"

end Bp7.C20
