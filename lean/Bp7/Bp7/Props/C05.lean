/-
  C05 — the CRC check rejects single-bit and short-burst corruption of a protected block.

  Algebra (Lemmas/CrcLinear.lean): the reflected CRC step is GF(2)-linear and, because the top bit
  of the polynomial is set, a non-zero difference between two runs can neither vanish within the
  next w/8 message bytes nor afterwards. Hence two messages that differ only inside a window of
  ≤ 2 (CRC-16) / ≤ 4 (CRC-32C) bytes never have the same checksum — for every message length,
  every window position and every replacement pattern.

  Block level: the check recomputes the CRC over the re-encoding of the decoded block with a zeroed
  CRC field; if that re-encoding differs from the original's inside such a window (the alarm
  condition of the property) while the CRC field is unchanged, or if only the CRC field changed,
  the check reports invalid.
-/
import Bp7.Lemmas.CrcLinear
import Bp7.Lemmas.SpecEq
import Bp7.Props.C04
namespace Bp7.C05
open Bp7

theorem poly16_top : POLY16.toNat ≥ 2 ^ (16 - 1) := by decide
theorem poly32_top : POLY32.toNat ≥ 2 ^ (32 - 1) := by decide

/-- **C05 (CRC-16/X.25).** Any change confined to a window of at most two consecutive bytes —
    in particular any single flipped bit — changes the checksum, whatever surrounds it. -/
theorem crc16_window (pre w₁ w₂ suf : Bytes) (hl : w₁.length = w₂.length) (hn : w₁.length ≤ 2)
    (hne : w₁ ≠ w₂) : crc16 (pre ++ w₁ ++ suf) ≠ crc16 (pre ++ w₂ ++ suf) := fun h =>
  feed_window_ne POLY16 (by decide) poly16_top _ pre w₁ w₂ suf hl (Nat.mul_le_mul_left 8 hn) hne ((BitVec.xor_left_inj _).mp h)

/-- **C05 (CRC-32C).** The same for windows of at most four consecutive bytes. -/
theorem crc32c_window (pre w₁ w₂ suf : Bytes) (hl : w₁.length = w₂.length) (hn : w₁.length ≤ 4)
    (hne : w₁ ≠ w₂) : crc32c (pre ++ w₁ ++ suf) ≠ crc32c (pre ++ w₂ ++ suf) := fun h =>
  feed_window_ne POLY32 (by decide) poly32_top _ pre w₁ w₂ suf hl (Nat.mul_le_mul_left 8 hn) hne ((BitVec.xor_left_inj _).mp h)

theorem flip_ne (b mask : UInt8) (hm : mask ≠ 0) : [b ^^^ mask] ≠ [b] := fun h =>
  hm ((UInt8.xor_right_inj b).mp ((List.cons.inj h).1.trans UInt8.xor_zero.symm))

/-- a single flipped bit is a one-byte window -/
theorem crc16_bitflip (pre suf : Bytes) (b : UInt8) (mask : UInt8) (hm : mask ≠ 0) :
    crc16 (pre ++ [b ^^^ mask] ++ suf) ≠ crc16 (pre ++ [b] ++ suf) :=
  crc16_window pre _ _ suf rfl (by simp) (flip_ne b mask hm)

theorem crc32c_bitflip (pre suf : Bytes) (b : UInt8) (mask : UInt8) (hm : mask ≠ 0) :
    crc32c (pre ++ [b ^^^ mask] ++ suf) ≠ crc32c (pre ++ [b] ++ suf) :=
  crc32c_window pre _ _ suf rfl (by simp) (flip_ne b mask hm)

theorem be16_inj (x y : BitVec 16) (h : (be16 x).bytes = (be16 y).bytes) : x = y := by
  rw [be16_bytes, be16_bytes] at h
  exact BitVec.eq_of_toNat_eq (eq_of_bigEndian 2 _ _ x.isLt y.isLt (Option.some.inj h))

theorem be32_inj (x y : BitVec 32) (h : (be32 x).bytes = (be32 y).bytes) : x = y := by
  rw [be32_bytes, be32_bytes] at h
  exact BitVec.eq_of_toNat_eq (eq_of_bigEndian 4 _ _ x.isLt y.isLt (Option.some.inj h))

theorem calculate_window (c : CrcVal) (hcode : c.toCode = 1 ∨ c.toCode = 2) (pre w₁ w₂ suf : Bytes)
    (hl : w₁.length = w₂.length) (hn : w₁.length ≤ 2 * c.toCode) (hne : w₁ ≠ w₂) :
    (c.calculate (pre ++ w₁ ++ suf)).bytes ≠ (c.calculate (pre ++ w₂ ++ suf)).bytes := by
  rcases hcode with h | h <;> rw [h] at hn
  · rw [(c.calculate_cases _).1 h, (c.calculate_cases _).1 h]
    exact fun e => crc16_window pre w₁ w₂ suf hl hn hne (be16_inj _ _ e)
  · rw [(c.calculate_cases _).2.1 h, (c.calculate_cases _).2.1 h]
    exact fun e => crc32c_window pre w₁ w₂ suf hl hn hne (be32_inj _ _ e)

/-- **C05 (block content).** Whichever kind of block: when the zeroed-CRC encodings `d`, `d'` of two blocks differ
    only inside a window of ≤ 2 (type 1) / ≤ 4 (type 2) bytes, the stored CRC values are the same and the first
    block verifies, the second fails the check. -/
theorem corruption_detected (c c' : CrcVal) (d d' : Bytes)
    (hc : c' = c) (hok : checkCrcVal c (c.calculate d) = true) (hcode : c.toCode = 1 ∨ c.toCode = 2)
    (pre w₁ w₂ suf : Bytes) (hl : w₁.length = w₂.length) (hn : w₁.length ≤ 2 * c.toCode) (hne : w₁ ≠ w₂)
    (he : d = pre ++ w₁ ++ suf) (he' : d' = pre ++ w₂ ++ suf) :
    checkCrcVal c' (c'.calculate d') = false := by
  have hno : c ≠ .no := fun h => by simp [h, CrcVal.toCode] at hcode
  subst hc he he'
  -- both computed values would be the stored one, and the two messages differ inside the window
  exact Bool.eq_false_iff.2 fun h => calculate_window _ hcode pre w₁ w₂ suf hl hn hne
    ((bytes_eq_of_check _ _ hok hno).trans (bytes_eq_of_check _ _ h hno).symm)

/-- **C05 (block content, CRC-16).** A primary block whose (zeroed-CRC) encoding differs from
    that of a verifying block only inside a window of ≤ 2 bytes, with the same stored CRC value,
    fails the check. -/
theorem primary_corruption_detected_16 (p p' : Primary) (a b : UInt8)
    (hc : p.crc = .v16 a b) (hc' : p'.crc = .v16 a b) (hok : p.checkCrc = true)
    (pre w₁ w₂ suf : Bytes) (hl : w₁.length = w₂.length) (hn : w₁.length ≤ 2) (hne : w₁ ≠ w₂)
    (he : encPrimary (C04.Primary.zeroed p) = pre ++ w₁ ++ suf)
    (he' : encPrimary (C04.Primary.zeroed p') = pre ++ w₂ ++ suf) :
    p'.checkCrc = false :=
  corruption_detected p.crc p'.crc _ _ (hc'.trans hc.symm) hok (by rw [hc]; exact .inl rfl)
    pre w₁ w₂ suf hl (by rw [hc]; exact hn) hne he he'

/-- **C05 (block content, CRC-32C, primary).** Window of ≤ 4 bytes. -/
theorem primary_corruption_detected_32 (p p' : Primary) (a b c d : UInt8)
    (hc : p.crc = .v32 a b c d) (hc' : p'.crc = .v32 a b c d) (hok : p.checkCrc = true)
    (pre w₁ w₂ suf : Bytes) (hl : w₁.length = w₂.length) (hn : w₁.length ≤ 4) (hne : w₁ ≠ w₂)
    (he : encPrimary (C04.Primary.zeroed p) = pre ++ w₁ ++ suf)
    (he' : encPrimary (C04.Primary.zeroed p') = pre ++ w₂ ++ suf) :
    p'.checkCrc = false :=
  corruption_detected p.crc p'.crc _ _ (hc'.trans hc.symm) hok (by rw [hc]; exact .inr rfl)
    pre w₁ w₂ suf hl (by rw [hc]; exact hn) hne he he'

/-- **C05 (block content, CRC-16, canonical block).** -/
theorem canon_corruption_detected_16 (p p' : Canon) (a b : UInt8)
    (hc : p.crc = .v16 a b) (hc' : p'.crc = .v16 a b) (hok : p.checkCrc = true)
    (pre w₁ w₂ suf : Bytes) (hl : w₁.length = w₂.length) (hn : w₁.length ≤ 2) (hne : w₁ ≠ w₂)
    (he : encCanon (C04.Canon.zeroed p) = pre ++ w₁ ++ suf)
    (he' : encCanon (C04.Canon.zeroed p') = pre ++ w₂ ++ suf) :
    p'.checkCrc = false :=
  corruption_detected p.crc p'.crc _ _ (hc'.trans hc.symm) hok (by rw [hc]; exact .inl rfl)
    pre w₁ w₂ suf hl (by rw [hc]; exact hn) hne he he'

/-- **C05 (block content, CRC-32C, canonical block).** -/
theorem canon_corruption_detected_32 (p p' : Canon) (a b c d : UInt8)
    (hc : p.crc = .v32 a b c d) (hc' : p'.crc = .v32 a b c d) (hok : p.checkCrc = true)
    (pre w₁ w₂ suf : Bytes) (hl : w₁.length = w₂.length) (hn : w₁.length ≤ 4) (hne : w₁ ≠ w₂)
    (he : encCanon (C04.Canon.zeroed p) = pre ++ w₁ ++ suf)
    (he' : encCanon (C04.Canon.zeroed p') = pre ++ w₂ ++ suf) :
    p'.checkCrc = false :=
  corruption_detected p.crc p'.crc _ _ (hc'.trans hc.symm) hok (by rw [hc]; exact .inr rfl)
    pre w₁ w₂ suf hl (by rw [hc]; exact hn) hne he he'

/-- **C05 (bundle level).** `crc_valid` demands every block: one failing block — primary or any
    canonical block, wherever it stands — makes the whole bundle fail. -/
theorem bundle_fails_if_block_fails (b : Bundle)
    (h : b.primary.checkCrc = false ∨ ∃ c ∈ b.canon, c.checkCrc = false) : b.crcValid = false := by
  unfold Bundle.crcValid
  rcases h with h | ⟨c, hc, hf⟩
  · simp [h]
  · have : b.canon.all Canon.checkCrc = false := by
      apply Bool.eq_false_iff.mpr
      intro hall
      have := List.all_eq_true.mp hall c hc
      rw [hf] at this; exact Bool.noConfusion this
    simp [this]

/-- **C05 (CRC value change).** A block that verifies stops verifying when only its stored CRC
    value is changed (same encoding otherwise). -/
theorem crc_value_change_detected (stored stored' computed : CrcVal)
    (hok : checkCrcVal stored computed = true) (hk : stored.wire = true) (hk' : stored'.wire = true)
    (hne : stored'.bytes ≠ stored.bytes) (hno : stored ≠ .no) (hno' : stored' ≠ .no) :
    checkCrcVal stored' computed = false :=
  Bool.eq_false_iff.2 fun h => hne ((bytes_eq_of_check _ _ h hno').symm.trans (bytes_eq_of_check _ _ hok hno))

/-- **C05 (no false alarms).** An uncorrupted freshly encoded bundle passes; blocks without CRC
    pass trivially. -/
theorem uncorrupted_passes (b : Bundle) (h : b.wf = true) :
    ∃ d, decodeBundle (b.toCbor).2 = .ok d ∧ d.crcValid = true := C04.crcValid_decode_encode b h

theorem no_crc_passes (computed : CrcVal) : checkCrcVal .no computed = true := rfl

/-! non-vacuity: a concrete 2-byte burst -/
example : crc16 ([1, 2] ++ [0xAA, 0xBB] ++ [9]) ≠ crc16 ([1, 2] ++ [0x55, 0x44] ++ [9]) :=
  crc16_window [1, 2] [0xAA, 0xBB] [0x55, 0x44] [9] rfl (by decide) (by decide)

end Bp7.C05
