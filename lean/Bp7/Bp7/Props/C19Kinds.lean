/-
  C19, position- and value-generic rejection theorems: the fault classes of the property, proved
  for EVERY position of the class and EVERY item of the wrong kind (C19More.lean reads off the
  single positions and sample items).

  The wrong-kind theorems rest on `parse_wrong_major` (tags, which serde_cbor treats as
  transparent, are excepted throughout), the positional theorems on one fact per block kind
  (`visitPrimary_prefix`, `visitCanon_prefix`): after items its readers accept, the visitor stands
  before the next mandatory element, and fails if the reader of that position fails or if no
  item is announced any more. That a reader which does not succeed fails with an ERROR is C06's
  `Good`. The second half of the file has the faults inside an item: the arity of the two-integer
  arrays, the endpoint-ID faults (`EidFault`) at every endpoint-ID position, and block-type-specific
  data that does not decode under its block type.
-/
import Bp7.Props.C06
import Bp7.Props.C19
namespace Bp7.C19
open Bp7 Bp7.C06

theorem bind_not_ok {α β} {m : P α} {f : α → P β} (hf : ∀ a s, (f a s).1.isOk = false) (s : St) :
    ((m >>= f) s).1.isOk = false := by
  rw [bind_apply]
  rcases m s with ⟨a | _ | _, s'⟩
  · exact hf a s'
  · rfl
  · rfl

theorem reject_not_ok {α} (h : Head) (s : St) : ((reject h : P α) s).1.isOk = false := by
  have nested : (recursionChecked (P.fail .type : P α) s).1.isOk = false := by
    simp only [recursionChecked, P.fail]; split; rfl; split <;> rfl
  cases h with
  | bytes len => rw [reject_bytes]; exact bind_not_ok (fun _ _ => rfl) s
  | text len => rw [reject_text]; exact bind_not_ok (fun _ _ => by split <;> rfl) s
  | bytesI => rw [reject_bytesI]; exact bind_not_ok (fun _ _ => rfl) s
  | textI => rw [reject_textI]; exact bind_not_ok (fun _ _ => by split <;> rfl) s
  | array _ | arrayI | map _ | mapI => exact nested
  | _ => rfl

theorem err_of_not_ok {α} (r : Res α) (s' : St) (h1 : r.isOk = false) (h2 : r.isPanic = false) :
    ∃ e, (r, s') = (Res.err e, s') := by
  cases r <;> simp_all [Res.isOk, Res.isPanic]

/-- **Universal wrong-kind lemma.** A visitor `k` that answers every head whose major type it
    does not `accept` with something other than a success fails on every input whose first byte
    has such a major type (and is not a tag), whatever follows. -/
theorem parse_wrong_major {α} (k : Head → P α) (hgood : ∀ h, Good (k h)) (accept : Nat → Bool)
    (hk : ∀ h s, accept (Head.major h) = false → (k h s).1.isOk = false)
    (b : UInt8) (rest : Bytes) (d : Nat) (hd : 1 ≤ d)
    (hb : accept (b.toNat / 32) = false) (h6 : b.toNat / 32 ≠ 6) :
    ∃ e s', parseWith k tagFuel ⟨b :: rest, d⟩ = (.err e, s') := by
  -- no success: the head has the major type of `b`, which is no tag and which `k` does not accept
  have hnok : (parseWith k tagFuel ⟨b :: rest, d⟩).1.isOk = false := by
    rw [tagFuel, parseWith_succ, bind_apply]
    rcases hr : readHead ⟨b :: rest, d⟩ with ⟨h | _ | _, s1⟩
    · have hm := readHead_major b rest d h s1 hr
      cases h with
      | tag _ => exact absurd hm (Ne.symm h6)
      | _ => exact hk _ _ (hm ▸ hb)
    · rfl
    · rfl
  have hg := (good_parseWith k hgood tagFuel ⟨b :: rest, d⟩ hd).1
  generalize parseWith k tagFuel ⟨b :: rest, d⟩ = r at hg hnok ⊢
  exact (err_of_not_ok r.1 r.2 hnok hg).imp fun e he => ⟨r.2, he⟩

theorem kUint_only_uint (bound : Nat) (h : Head) (s : St) (hm : (Head.major h == 0) = false) :
    (kUint bound h s).1.isOk = false := by
  cases h with
  | uint _ => exact absurd hm nofun
  | _ => exact reject_not_ok _ s

/-- **C19 (wrong kind in place of a mandatory unsigned integer).** Negative integers (major
    type 1), byte strings (2), text strings (3), arrays (4), maps (5), floats, null, booleans and
    every other simple value (7): each is refused by the three unsigned-integer readers the block
    visitors use, whatever its argument and whatever follows. -/
theorem readUint_wrong_major (b : UInt8) (rest : Bytes) (d : Nat) (hd : 1 ≤ d)
    (hb : b.toNat / 32 ≠ 0) (h6 : b.toNat / 32 ≠ 6) :
    (∃ e s', readU64 ⟨b :: rest, d⟩ = (.err e, s')) ∧ (∃ e s', readU32 ⟨b :: rest, d⟩ = (.err e, s')) ∧
    (∃ e s', readU8 ⟨b :: rest, d⟩ = (.err e, s')) := by
  have key : ∀ bound, ∃ e s', parseWith (kUint bound) tagFuel ⟨b :: rest, d⟩ = (.err e, s') := fun bound =>
    parse_wrong_major _ (good_kUint _) (· == 0) (fun h s => kUint_only_uint _ h s) b rest d hd (by simpa using hb) h6
  exact ⟨key _, key _, key _⟩

theorem kSeq_only_array {α} (visit : Acc → P (α × Acc)) (h : Head) (s : St) (hm : (Head.major h == 4) = false) :
    (kSeq visit h s).1.isOk = false := by
  cases h with
  | array _ | arrayI => exact absurd hm nofun
  | _ => exact reject_not_ok _ s

/-- **C19 (an integer, string or map in place of a mandatory array).** Unsigned and negative
    integers, byte and text strings, maps, floats and simple values are refused wherever an
    endpoint ID, a creation timestamp, an ipn address, a block or the hop-count pair is required. -/
theorem readSeq_wrong_major {α} (visit : Acc → P (α × Acc)) (hv : ∀ acc, Safe (visit acc))
    (b : UInt8) (rest : Bytes) (d : Nat) (hd : 1 ≤ d) (hb : b.toNat / 32 ≠ 4) (h6 : b.toNat / 32 ≠ 6) :
    ∃ e s', readSeq visit ⟨b :: rest, d⟩ = (.err e, s') :=
  parse_wrong_major _ (good_kSeq visit hv) (· == 4) (fun h s => kSeq_only_array visit h s) b rest d hd
    (by simpa using hb) h6

theorem readEid_wrong_major (b : UInt8) (rest : Bytes) (d : Nat) (hd : 1 ≤ d) (hb : b.toNat / 32 ≠ 4) (h6 : b.toNat / 32 ≠ 6) :
    ∃ e s', readEid ⟨b :: rest, d⟩ = (.err e, s') := readSeq_wrong_major _ safe_visitEid b rest d hd hb h6
theorem readPairU64_wrong_major (b : UInt8) (rest : Bytes) (d : Nat) (hd : 1 ≤ d) (hb : b.toNat / 32 ≠ 4) (h6 : b.toNat / 32 ≠ 6) :
    ∃ e s', readPairU64 ⟨b :: rest, d⟩ = (.err e, s') :=
  readSeq_wrong_major _ (fun acc => (good_visitPairU64 acc).safe) b rest d hd hb h6
theorem readPrimary_wrong_major (b : UInt8) (rest : Bytes) (d : Nat) (hd : 1 ≤ d) (hb : b.toNat / 32 ≠ 4) (h6 : b.toNat / 32 ≠ 6) :
    ∃ e s', readPrimary ⟨b :: rest, d⟩ = (.err e, s') := readSeq_wrong_major _ safe_visitPrimary b rest d hd hb h6
theorem readCanon_wrong_major (b : UInt8) (rest : Bytes) (d : Nat) (hd : 1 ≤ d) (hb : b.toNat / 32 ≠ 4) (h6 : b.toNat / 32 ≠ 6) :
    ∃ e s', readCanon ⟨b :: rest, d⟩ = (.err e, s') := readSeq_wrong_major _ safe_visitCanon b rest d hd hb h6

/-- serde_bytes' `ByteBuf` visitor accepts byte strings, text strings and sequences — nothing else -/
theorem kByteBuf_only (h : Head) (s : St) (hm : (Head.major h == 2 || Head.major h == 3 || Head.major h == 4) = false) :
    (kByteBuf h s).1.isOk = false := by
  cases h with
  | bytes _ | bytesI | text _ | textI | array _ | arrayI => exact absurd hm nofun
  | _ => exact reject_not_ok _ s

/-- **C19 (an integer in place of a byte-string field).** Unsigned and negative integers — and
    maps, floats, simple values — are refused where block-type-specific data or a CRC value is
    required. -/
theorem readByteBuf_wrong_major (b : UInt8) (rest : Bytes) (d : Nat) (hd : 1 ≤ d)
    (hb : b.toNat / 32 ≠ 2 ∧ b.toNat / 32 ≠ 3 ∧ b.toNat / 32 ≠ 4) (h6 : b.toNat / 32 ≠ 6) :
    ∃ e s', readByteBuf ⟨b :: rest, d⟩ = (.err e, s') :=
  parse_wrong_major _ good_kByteBuf (fun m => m == 2 || m == 3 || m == 4) (fun h s => kByteBuf_only h s) b rest d hd
    (by simp [hb.1, hb.2.1, hb.2.2]) h6

theorem encEid_cons (e : Eid) : ∃ tl, encEid e = (0x82 : UInt8) :: tl := by
  cases e <;> exact ⟨_, by simp [encEid, encArrayHead, encHead]; rfl⟩

/-- `rd` accepts `item` (at the depth of a block's items) and stops behind it -/
def Reads {α} (rd : P α) (item : Bytes) : Prop := ∃ v, ∀ r, rd ⟨item ++ r, 126⟩ = (.ok v, ⟨r, 126⟩)

/-- `reads k`, `reads (k + 1)`, … hold of the items of the list in turn -/
def SlotsRead (reads : Nat → Bytes → Prop) : Nat → List Bytes → Prop
  | _, [] => True
  | k, item :: items => reads k item ∧ SlotsRead reads (k + 1) items

theorem SlotsRead.take {reads : Nat → Bytes → Prop} : ∀ {k : Nat} {items : List Bytes} (n : Nat),
    SlotsRead reads k items → SlotsRead reads k (items.take n)
  | _, [], _, _ => by simp [SlotsRead]
  | _, _ :: _, 0, _ => trivial
  | _, _ :: _, n + 1, h => ⟨h.1, SlotsRead.take n h.2⟩

theorem reqElem_bind_cons {α β} (rd : P α) (K : α × Acc → P β) (c : Nat) (item : Bytes) (items : List Bytes) (x : Bytes)
    (v : α) {d : Nat} (h : ∀ r, rd ⟨item ++ r, d⟩ = (.ok v, ⟨r, d⟩)) :
    (reqElem rd (some (c + (item :: items).length)) >>= K) ⟨(item :: items).flatten ++ x, d⟩
      = K (v, some (c + items.length)) ⟨items.flatten ++ x, d⟩ := by
  rw [List.flatten_cons, List.append_assoc, List.length_cons, ← Nat.add_assoc, reqElem_succ, bind_ok (bind_ok (h _) _)]

theorem reqElem_bind_err {α β} {rd : P α} {s s' : St} {e : Err} (h : rd s = (.err e, s')) (c : Nat) (K : α × Acc → P β) :
    (reqElem rd (some (c + 1)) >>= K) s = (.err e, s') := by
  rw [reqElem_succ, bind_err (bind_err h _)]

theorem reqElem_bind_zero {α β} (rd : P α) (K : α × Acc → P β) (s : St) :
    (reqElem rd (some 0) >>= K) s = (.err .length, s) := rfl

/-- the eight mandatory items of a primary block, one encoding each -/
def primaryItems (p : Primary) (t : Nat) : List Bytes :=
  [encUint p.version, encUint p.flags, encUint t, encEid p.dst, encEid p.src, encEid p.rpt,
   encArrayHead 2 ++ encUint p.ts ++ encUint p.seq, encUint p.lifetime]

/-- RFC 9171 §4.3.1: items 3–6 (the three endpoint IDs, the creation timestamp) are arrays, the
    other mandatory items are unsigned integers -/
def primarySlotMajor (k : Nat) : Nat := if k = 3 ∨ k = 4 ∨ k = 5 ∨ k = 6 then 4 else 0

theorem primaryItems_flatten (p : Primary) (t : Nat) : (primaryItems p t).flatten = enc8 p t := by
  simp [primaryItems, enc8]

/-- the reader the primary-block visitor uses for its `k`-th item fails on input `x` -/
def PrimarySlotFails (k : Nat) (x : Bytes) : Prop :=
  match k with
  | 0 => ∃ e s', readU32 ⟨x, 126⟩ = (.err e, s')
  | 1 => ∃ e s', readU64 ⟨x, 126⟩ = (.err e, s')
  | 2 => ∃ e s', readU8 ⟨x, 126⟩ = (.err e, s')
  | 3 | 4 | 5 => ∃ e s', readEid ⟨x, 126⟩ = (.err e, s')
  | 6 => ∃ e s', readPairU64 ⟨x, 126⟩ = (.err e, s')
  | 7 => ∃ e s', readU64 ⟨x, 126⟩ = (.err e, s')
  | _ => False

def PrimarySlotReads (k : Nat) (item : Bytes) : Prop :=
  match k with
  | 0 => Reads readU32 item
  | 1 | 7 => Reads readU64 item
  | 2 => Reads readU8 item
  | 3 | 4 | 5 => Reads readEid item
  | 6 => Reads readPairU64 item
  | _ => False

theorem PrimarySlotFails.lt {k : Nat} {x : Bytes} (h : PrimarySlotFails k x) : k < 8 :=
  Nat.lt_of_not_le fun h8 => by
    obtain ⟨m, rfl⟩ := Nat.exists_eq_add_of_le' h8
    exact h

/-- `rd` is the reader `PrimarySlotFails` names for the position, `c` the number of items still
    announced; one step of the visitor per item. Used with `reqElem_bind_err` (that reader fails)
    and `reqElem_bind_zero` (`c = 0`); it says nothing else about `rd` and `K`. -/
theorem visitPrimary_prefix (items : List Bytes) (hok : SlotsRead PrimarySlotReads 0 items) (hl : items.length < 8)
    (c : Nat) (x : Bytes) :
    ∃ (α : Type) (rd : P α) (K : α × Acc → P (Primary × Acc)),
      visitPrimary (some (c + items.length)) ⟨items.flatten ++ x, 126⟩ = (reqElem rd (some c) >>= K) ⟨x, 126⟩ ∧
      (PrimarySlotFails items.length x → ∃ e s', rd ⟨x, 126⟩ = (.err e, s')) := by
  unfold visitPrimary
  iterate 8
    rcases items with _ | ⟨item, items⟩
    · exact ⟨_, _, _, rfl, id⟩
    obtain ⟨⟨v, h⟩, hok⟩ := hok
    rw [reqElem_bind_cons _ _ c item items x v h]
    dsimp only
  exact absurd hl (by simp)

theorem primaryItems_read (p : Primary) (h : p.wf = true) (t : Nat) (ht : t < 256) :
    SlotsRead PrimarySlotReads 0 (primaryItems p t) :=
  have F := p.fields (p.wfF_of_wf h)
  ⟨⟨_, readU32_enc _ F.version _⟩, ⟨_, readU64_enc _ F.flags _⟩, ⟨_, readU8_enc _ ht _⟩,
   ⟨_, readEid_enc _ F.dst 126 (by omega)⟩, ⟨_, readEid_enc _ F.src 126 (by omega)⟩,
   ⟨_, readEid_enc _ F.rpt 126 (by omega)⟩, ⟨_, readPairU64_enc _ _ F.ts F.seq 126 (by omega)⟩,
   ⟨_, readU64_enc _ F.lifetime _⟩, trivial⟩

/-- **C19 (a fault after ANY items the primary-block readers accept).** -/
theorem reject_primary_prefix (items : List Bytes) (hok : SlotsRead PrimarySlotReads 0 items) (x : Bytes)
    (hx : PrimarySlotFails items.length x) (count : Nat) (hc : count < 18446744073709551616) (hlc : items.length < count) :
    ∃ e, decodeBundle ([0x9f] ++ (encArrayHead count ++ (items.flatten ++ x))) = .err e := by
  obtain ⟨n, rfl⟩ : ∃ n, count = n + 1 + items.length := ⟨count - items.length - 1, by omega⟩
  obtain ⟨_, _, K, hv, hrd⟩ := visitPrimary_prefix items hok hx.lt (n + 1) x
  obtain ⟨e, s', he⟩ := hrd hx
  exact ⟨e, reject_of_visit_err _ hc _ e s' (hv.trans (reqElem_bind_err he n K))⟩

/-- **C19 (a fault inside the item at ANY mandatory position of the primary block).** If the
    reader of position `k` fails on `x`, the bundle whose primary block consists of `k` conformant
    items followed by `x` is rejected. -/
theorem reject_primary_slot (p : Primary) (h : p.wf = true) (t : Nat) (ht : t < 256) (k : Nat) (hk : k < 8)
    (count : Nat) (hc : count < 24) (hkc : k < count) (x : Bytes) (hx : PrimarySlotFails k x) :
    ∃ e, decodeBundle ([0x9f] ++ (encArrayHead count ++ (((primaryItems p t).take k).flatten ++ x))) = .err e := by
  have hl : ((primaryItems p t).take k).length = k := by simp [primaryItems]; omega
  exact reject_primary_prefix _ ((primaryItems_read p h t ht).take k) x (hl.symm ▸ hx) count (by omega) (hl.symm ▸ hkc)

theorem slotFails_of_wrong_major (k : Nat) (hk : k < 8) (b : UInt8) (rest : Bytes)
    (hb : b.toNat / 32 ≠ primarySlotMajor k) (h6 : b.toNat / 32 ≠ 6) : PrimarySlotFails k (b :: rest) :=
  have hu := readUint_wrong_major b rest 126 (by omega)
  match k, hk, hb with
  | 0, _, hb => (hu hb h6).2.1
  | 1, _, hb | 7, _, hb => (hu hb h6).1
  | 2, _, hb => (hu hb h6).2.2
  | 3, _, hb | 4, _, hb | 5, _, hb => readEid_wrong_major b rest 126 (by omega) hb h6
  | 6, _, hb => readPairU64_wrong_major b rest 126 (by omega) hb h6

/-- **C19 (wrong kind of item in ANY mandatory position of the primary block).** After `k < 8`
    conformant items, an item whose first byte has a major type other than the one RFC 9171
    prescribes for position `k` (unsigned integer, resp. array for the endpoint IDs and the
    creation timestamp) — any argument, anything after it, any announced item count below 24: rejected. -/
theorem reject_primary_wrong_kind (p : Primary) (h : p.wf = true) (t : Nat) (ht : t < 256) (k : Nat) (hk : k < 8)
    (count : Nat) (hc : count < 24) (hkc : k < count)
    (b : UInt8) (rest : Bytes) (hb : b.toNat / 32 ≠ primarySlotMajor k) (h6 : b.toNat / 32 ≠ 6) :
    ∃ e, decodeBundle ([0x9f] ++ (encArrayHead count ++ (((primaryItems p t).take k).flatten ++ b :: rest))) = .err e :=
  reject_primary_slot p h t ht k hk count hc hkc _ (slotFails_of_wrong_major k hk b rest hb h6)

/-- **C19 (wrong kind in place of the fragment offset or the total length).** A primary block
    announcing ten or more items: after the eight mandatory ones (and, for the total length, a
    conformant fragment offset) an item that is not an unsigned integer is rejected. -/
theorem reject_primary_frag_wrong_kind (p : Primary) (h : p.wf = true) (t : Nat) (ht : t < 256)
    (count : Nat) (hc : count < 24) (hc10 : 10 ≤ count) (second : Bool) (fo : Nat) (hfo : fo < 18446744073709551616)
    (b : UInt8) (rest : Bytes) (hb : b.toNat / 32 ≠ 0) (h6 : b.toNat / 32 ≠ 6) :
    ∃ e, decodeBundle (faultyBundle p t count ((if second then encUint fo else []) ++ [b]) rest) = .err e := by
  obtain ⟨n, rfl⟩ : ∃ n, count = (n + 2) + 8 := ⟨count - 10, by omega⟩
  obtain ⟨⟨e, s', hx⟩, _, _⟩ := readUint_wrong_major b rest 126 (by omega) hb h6
  refine ⟨e, reject_of_visit_err _ (by omega) _ e s' ?_⟩
  rw [visitPrimary_after8 p h t ht (n + 2) _ 126 (by omega)]
  cases second
  · simp [primaryTail, bind_apply, reqElem_succ, hx]
  · simp [primaryTail, bind_apply, pure_apply, reqElem_succ, readU64_enc fo hfo, hx]

/-- **C19 (an integer — or a map, float, simple value — in place of the CRC value of the primary
    block).** Non-fragment layout (nine items) and fragment layout (eleven items), CRC type 1 or 2. -/
theorem reject_primary_crc_wrong_kind (p : Primary) (h : p.wf = true) (t : Nat) (ht : t = 1 ∨ t = 2)
    (b : UInt8) (rest : Bytes) (hb : b.toNat / 32 ≠ 2 ∧ b.toNat / 32 ≠ 3 ∧ b.toNat / 32 ≠ 4) (h6 : b.toNat / 32 ≠ 6) :
    (∃ e, decodeBundle (faultyBundle p t 9 [b] rest) = .err e) ∧
    (∀ fo tl, fo < 18446744073709551616 → tl < 18446744073709551616 →
      ∃ e, decodeBundle (faultyBundle p t 11 (encUint fo ++ (encUint tl ++ [b])) rest) = .err e) := by
  obtain ⟨e, s', hx⟩ := readByteBuf_wrong_major b rest 126 (by omega) hb h6
  have ht' : t < 256 := by omega
  have hc := visitCrc_field_err t ht 0 _ 126 e s' hx
  constructor
  · refine ⟨e, reject_of_visit_err 9 (by omega) _ e s' ?_⟩
    rw [visitPrimary_after8 p h t ht' 1 _ 126 (by omega)]
    simp [primaryTail, bind_apply, pure_apply, hc]
  · intro fo tl hfo htl
    refine ⟨e, reject_of_visit_err 11 (by omega) _ e s' ?_⟩
    rw [visitPrimary_after8 p h t ht' 3 _ 126 (by omega)]
    simp [primaryTail, bind_apply, pure_apply, reqElem_succ, readU64_enc fo hfo, readU64_enc tl htl, hc]

/-- the five mandatory items of a canonical block -/
def canonItems (c : Canon) (t : Nat) : List Bytes :=
  [encUint c.btype, encUint c.num, encUint c.flags, encUint t, encBytes (btsd c.data)]

/-- acceptable major types per position (RFC 9171 §4.3.2: four unsigned integers, then a byte
    string — for which serde_bytes also takes a text string or a sequence) -/
def canonSlotOk (k : Nat) (m : Nat) : Bool := if k = 4 then (m == 2 || m == 3 || m == 4) else m == 0

/-- the reader the canonical-block visitor uses for its `k`-th item: block type and number as
    `u64`, block flags and CRC type as `u8`, the data through serde_bytes -/
def CanonSlotReads (k : Nat) (item : Bytes) : Prop :=
  match k with
  | 0 | 1 => Reads readU64 item
  | 2 | 3 => Reads readU8 item
  | 4 => Reads readByteBuf item
  | _ => False

def CanonSlotFails (k : Nat) (x : Bytes) : Prop :=
  match k with
  | 0 | 1 => ∃ e s', readU64 ⟨x, 126⟩ = (.err e, s')
  | 2 | 3 => ∃ e s', readU8 ⟨x, 126⟩ = (.err e, s')
  | 4 => ∃ e s', readByteBuf ⟨x, 126⟩ = (.err e, s')
  | _ => False

theorem CanonSlotFails.lt {k : Nat} {x : Bytes} (h : CanonSlotFails k x) : k < 5 :=
  Nat.lt_of_not_le fun h5 => by
    obtain ⟨m, rfl⟩ := Nat.exists_eq_add_of_le' h5
    exact h

theorem visitCanon_prefix (items : List Bytes) (hok : SlotsRead CanonSlotReads 0 items) (hl : items.length < 5)
    (c : Nat) (x : Bytes) :
    ∃ (α : Type) (rd : P α) (K : α × Acc → P (Canon × Acc)),
      visitCanon (some (c + items.length)) ⟨items.flatten ++ x, 126⟩ = (reqElem rd (some c) >>= K) ⟨x, 126⟩ ∧
      (CanonSlotFails items.length x → ∃ e s', rd ⟨x, 126⟩ = (.err e, s')) := by
  unfold visitCanon
  iterate 5
    rcases items with _ | ⟨item, items⟩
    · exact ⟨_, _, _, rfl, id⟩
    obtain ⟨⟨v, h⟩, hok⟩ := hok
    rw [reqElem_bind_cons _ _ c item items x v h]
    dsimp only
  exact absurd hl (by simp)

theorem canonItems_read (c : Canon) (h : c.wf = true) (t : Nat) (ht : t < 256) :
    SlotsRead CanonSlotReads 0 (canonItems c t) :=
  have F := c.fields (c.wfF_of_wf h)
  ⟨⟨_, readU64_enc _ F.btype _⟩, ⟨_, readU64_enc _ F.num _⟩, ⟨_, readU8_enc _ F.flags _⟩,
   ⟨_, readU8_enc _ ht _⟩, ⟨_, readByteBuf_enc _ F.len _⟩, trivial⟩

/-- **C19 (a fault after ANY items the canonical-block readers accept).** The block follows a
    conformant primary block. -/
theorem reject_canon_prefix (p : Primary) (hp : p.wf = true ∧ p.crc.wire = true) (items : List Bytes)
    (hok : SlotsRead CanonSlotReads 0 items) (x : Bytes) (hx : CanonSlotFails items.length x)
    (count : Nat) (hc : count < 18446744073709551616) (hlc : items.length < count) :
    ∃ e, decodeBundle ([0x9f] ++ (encPrimary p ++ (encArrayHead count ++ (items.flatten ++ x)))) = .err e := by
  obtain ⟨n, rfl⟩ : ∃ n, count = n + 1 + items.length := ⟨count - items.length - 1, by omega⟩
  obtain ⟨_, _, K, hv, hrd⟩ := visitCanon_prefix items hok hx.lt (n + 1) x
  obtain ⟨e, s', he⟩ := hrd hx
  exact ⟨e, reject_of_canon_err p hp _ hc _ e s' (hv.trans (reqElem_bind_err he n K))⟩

theorem canonSlotFails_of_wrong_major (k : Nat) (hk : k < 5) (b : UInt8) (rest : Bytes)
    (hb : canonSlotOk k (b.toNat / 32) = false) (h6 : b.toNat / 32 ≠ 6) : CanonSlotFails k (b :: rest) :=
  have hu := fun h0 => readUint_wrong_major b rest 126 (by omega) h0 h6
  match k, hk, hb with
  | 0, _, hb | 1, _, hb => (hu (ne_of_beq_false hb)).1
  | 2, _, hb | 3, _, hb => (hu (ne_of_beq_false hb)).2.2
  | 4, _, hb =>
    have hb' : (b.toNat / 32 ≠ 2 ∧ b.toNat / 32 ≠ 3) ∧ b.toNat / 32 ≠ 4 := by simpa [canonSlotOk] using hb
    readByteBuf_wrong_major b rest 126 (by omega) ⟨hb'.1.1, hb'.1.2, hb'.2⟩ h6

/-- **C19 (wrong kind of item in ANY mandatory position of a canonical block).** The block follows
    a conformant primary block; after `k < 5` conformant items comes an item of a major type the
    position does not take. -/
theorem reject_canon_wrong_kind (p : Primary) (hp : p.wf = true ∧ p.crc.wire = true) (c : Canon) (h : c.wf = true)
    (t : Nat) (ht : t < 256) (k : Nat) (hk : k < 5) (count : Nat) (hc : count < 24) (hkc : k < count)
    (b : UInt8) (rest : Bytes) (hb : canonSlotOk k (b.toNat / 32) = false) (h6 : b.toNat / 32 ≠ 6) :
    ∃ e, decodeBundle ([0x9f] ++ (encPrimary p ++ (encArrayHead count ++ (((canonItems c t).take k).flatten ++ b :: rest)))) = .err e := by
  have hl : ((canonItems c t).take k).length = k := by simp [canonItems]; omega
  exact reject_canon_prefix p hp _ ((canonItems_read c h t ht).take k) _
    (hl.symm ▸ canonSlotFails_of_wrong_major k hk b rest hb h6) count (by omega) (hl.symm ▸ hkc)

/-- **C19 (an integer, map, float or simple value in place of the CRC value of a canonical block).** -/
theorem reject_canon_crc_wrong_kind (p : Primary) (hp : p.wf = true ∧ p.crc.wire = true) (c : Canon) (h : c.wf = true)
    (t : Nat) (ht : t = 1 ∨ t = 2)
    (b : UInt8) (rest : Bytes) (hb : b.toNat / 32 ≠ 2 ∧ b.toNat / 32 ≠ 3 ∧ b.toNat / 32 ≠ 4) (h6 : b.toNat / 32 ≠ 6) :
    ∃ e, decodeBundle ([0x9f] ++ (encPrimary p ++ (canonWith c t 6 (b :: rest)))) = .err e := by
  obtain ⟨e, s', hx⟩ := readByteBuf_wrong_major b rest 126 (by omega) hb h6
  refine ⟨e, reject_of_canon_err p hp 6 (by omega) _ e s' ?_⟩
  rw [visitCanon_mandatory c (c.wfF_of_wf h) t (by omega) 1 _ 126, bind_err (visitCrc_field_err t ht 0 _ 126 e s' hx)]

/-- a creation timestamp `[ts, seq]` where an endpoint ID is expected: with `ts = 1` it reads as
    `dtn:none` (scheme 1, the failed read of the ssp swallowed, exactly as for `[1, 0]`); with any
    other `ts` it is an error -/
theorem readEid_pair (ts sq : Nat) (hts : ts < 18446744073709551616) (hsq : sq < 18446744073709551616)
    (rest : Bytes) (d : Nat) (hd : 3 ≤ d) :
    (ts = 1 → readEid ⟨encArrayHead 2 ++ encUint ts ++ encUint sq ++ rest, d⟩ = (.ok Eid.dtnNone, ⟨rest, d⟩)) ∧
    (ts ≠ 1 → ∃ e s', readEid ⟨encArrayHead 2 ++ encUint ts ++ encUint sq ++ rest, d⟩ = (.err e, s')) := by
  simp only [readEid, List.append_assoc]
  constructor
  · rintro rfl
    exact readSeq_ok visitEid 2 (by omega) _ rest d (by omega) Eid.dtnNone (visitEid_dtn_uint sq hsq rest (d - 1) 0)
  · intro hne
    suffices ∃ e s', visitEid (some 2) ⟨encUint ts ++ (encUint sq ++ rest), d - 1⟩ = (.err e, s') by
      obtain ⟨e, s', hv⟩ := this
      exact ⟨e, _, readSeq_visit_err visitEid 2 (by omega) _ d (by omega) e s' hv⟩
    by_cases h2 : ts = 2
    · -- scheme code 2 wants an ipn address, an array, and finds `sq`
      obtain ⟨b, tl, hb, hm⟩ := encHead_major 0 sq (by omega)
      obtain ⟨e, s', hx⟩ := readPairU64_wrong_major b (tl ++ rest) (d - 1) (by omega) (by omega) (by omega)
      rw [h2, show encUint sq = b :: tl from hb]
      exact ⟨e, s', (visitEid_ipn 1 _ _).trans (reqElem_bind_err hx 0 _)⟩
    · exact ⟨_, _, visitEid_unknown ts hts hne h2 1 _ _⟩

/-- **C19 (ANY one of the first seven mandatory items of the primary block missing).** The block
    announces `count ≥ 7` items and carries the mandatory items of a conformant block except the
    `k`-th (`k = 0` version, 1 flags, 2 CRC type, 3 destination, 4 source, 5 report-to, 6 creation
    timestamp), followed by anything at all (conformant fragment fields, CRC, further blocks): it
    is rejected.  (`k = 7`, the lifetime, depends on what follows: `reject_primary_missing_item`
    in C19More.lean has the block that announces seven items.) -/
theorem reject_primary_missing (p : Primary) (h : p.wf = true) (t : Nat) (ht : t < 256) (k : Nat) (hk : k < 7)
    (count : Nat) (hc : count < 24) (hc7 : 7 ≤ count) (tail : Bytes) :
    ∃ e, decodeBundle ([0x9f] ++ (encArrayHead count ++ (((primaryItems p t).eraseIdx k).flatten ++ tail))) = .err e := by
  have F := p.fields (p.wfF_of_wf h)
  obtain ⟨rV, rF, rT, rD, rS, rR, rP, _⟩ := primaryItems_read p h t ht
  -- the remaining items, split into those their new positions accept, the first one refused, and the rest
  have key : ∀ (pre : List Bytes) {x : Bytes} {post : List Bytes}, SlotsRead PrimarySlotReads 0 pre →
      PrimarySlotFails pre.length (x ++ (post.flatten ++ tail)) → pre.length < 7 →
      ∃ e, decodeBundle ([0x9f] ++ (encArrayHead count ++ ((pre ++ x :: post).flatten ++ tail))) = .err e := by
    intro pre x post hok hx hl
    have := reject_primary_prefix pre hok _ hx count (by omega) (Nat.lt_of_lt_of_le hl hc7)
    rwa [List.flatten_append, List.flatten_cons, List.append_assoc, List.append_assoc]
  -- one position up, the CRC type is accepted as flags; the destination is refused as CRC type,
  -- the lifetime as creation timestamp
  have rT1 : PrimarySlotReads 1 (encUint t) := ⟨_, readU64_enc t (by omega) _⟩
  have fD : ∀ r, PrimarySlotFails 2 (encEid p.dst ++ r) := fun r => by
    obtain ⟨tl, htl⟩ := encEid_cons p.dst
    rw [htl]
    exact slotFails_of_wrong_major 2 (by omega) _ _ (by decide) (by decide)
  have fL : ∀ r, PrimarySlotFails 6 (encUint p.lifetime ++ r) := fun r => by
    obtain ⟨b, tl, hb, hm⟩ := encHead_major 0 p.lifetime (by omega)
    rw [encUint, hb]
    exact slotFails_of_wrong_major 6 (by omega) _ _ (by rw [hm]; decide) (by omega)
  -- an endpoint ID missing: the creation timestamp stands where the third one is expected. It is refused — or,
  -- beginning with 1, read as `dtn:none`, and then the lifetime stands where the creation timestamp is expected
  have eids : ∀ a b : Bytes, PrimarySlotReads 3 a → PrimarySlotReads 4 b →
      ∃ e, decodeBundle ([0x9f] ++ (encArrayHead count ++ ([encUint p.version, encUint p.flags, encUint t, a, b,
        encArrayHead 2 ++ encUint p.ts ++ encUint p.seq, encUint p.lifetime].flatten ++ tail))) = .err e := by
    intro a b ra rb
    have hp := fun r => readEid_pair p.ts p.seq F.ts F.seq r 126 (by omega)
    by_cases h1 : p.ts = 1
    · exact key [_, _, _, a, b, _] ⟨rV, rF, rT, ra, rb, ⟨_, fun r => (hp r).1 h1⟩, trivial⟩ (fL _) (by simp)
    · exact key [_, _, _, a, b] ⟨rV, rF, rT, ra, rb, trivial⟩ ((hp _).2 h1) (by simp)
  match k, hk with
  | 0, _ =>
    -- the flags stand where the version is expected: accepted only if they fit `u32`
    by_cases h32 : p.flags < 4294967296
    · exact key [_, _] ⟨⟨_, readU32_enc _ h32 _⟩, rT1, trivial⟩ (fD _) (by simp)
    · exact key [] trivial ⟨_, _, (parseWith_kUint _ _ F.flags _ _ 126).trans (by rw [if_neg h32])⟩ (by simp)
  | 1, _ => exact key [_, _] ⟨rV, rT1, trivial⟩ (fD _) (by simp)
  | 2, _ => exact key [_, _] ⟨rV, rF, trivial⟩ (fD _) (by simp)
  | 3, _ => exact eids _ _ rS rR
  | 4, _ => exact eids _ _ rD rR
  | 5, _ => exact eids _ _ rD rS
  | 6, _ => exact key [_, _, _, _, _, _] ⟨rV, rF, rT, rD, rS, rR, trivial⟩ (fL _) (by simp)

/-- **C19 (ANY one of the first four mandatory items of a canonical block missing).** (The fifth,
    the data, missing: `reject_canon_missing_item`.) -/
theorem reject_canon_missing (p : Primary) (hp : p.wf = true ∧ p.crc.wire = true) (c : Canon) (h : c.wf = true)
    (t : Nat) (ht : t < 256) (k : Nat) (hk : k < 4) (count : Nat) (hc : count < 24) (hc4 : 4 ≤ count) (tail : Bytes) :
    ∃ e, decodeBundle ([0x9f] ++ (encPrimary p ++ (encArrayHead count ++ (((canonItems c t).eraseIdx k).flatten ++ tail)))) = .err e := by
  have F := c.fields (c.wfF_of_wf h)
  -- whichever of the four integers is missing, the other three are accepted at the first three positions,
  -- and the data byte string stands where the CRC type is expected
  have key : ∀ a b c', a < 18446744073709551616 → b < 18446744073709551616 → c' < 256 →
      ∃ e, decodeBundle ([0x9f] ++ (encPrimary p ++ (encArrayHead count ++
        ([encUint a, encUint b, encUint c', encBytes (btsd c.data)].flatten ++ tail)))) = .err e := by
    intro a b c' ha hb hc'
    obtain ⟨x, tl, hx, hm⟩ := encHead_major 2 (btsd c.data).length (by omega)
    have := reject_canon_prefix p hp [encUint a, encUint b, encUint c']
      ⟨⟨_, readU64_enc _ ha _⟩, ⟨_, readU64_enc _ hb _⟩, ⟨_, readU8_enc _ hc' _⟩, trivial⟩
      (x :: (tl ++ btsd c.data ++ tail)) (canonSlotFails_of_wrong_major 3 (by omega) x _ (by rw [hm]; rfl) (by omega)) count (by omega) hc4
    simpa [encBytes, hx] using this
  have hfl : c.flags < 18446744073709551616 := Nat.lt_trans F.flags (by decide)
  match k, hk with
  | 0, _ => exact key c.num c.flags t F.num hfl ht
  | 1, _ => exact key c.btype c.flags t F.btype hfl ht
  | 2, _ => exact key c.btype c.num t F.btype F.num ht
  | 3, _ => exact key c.btype c.num c.flags F.btype F.num F.flags

/-- **C19 (a missing or an extra item in a creation timestamp / an ipn address).** The two-integer
    arrays are read by `readPairU64`: an array of 0 or 1 items lacks a mandatory item, an array of
    3 or more has trailing items. -/
theorem readPairU64_arity (a b : Nat) (ha : a < 18446744073709551616) (hb : b < 18446744073709551616)
    (rest : Bytes) (d : Nat) (hd : 2 ≤ d) :
    (∃ s', readPairU64 ⟨encArrayHead 0 ++ rest, d⟩ = (.err .length, s')) ∧
    (∃ s', readPairU64 ⟨encArrayHead 1 ++ (encUint a ++ rest), d⟩ = (.err .length, s')) ∧
    (∀ n, 3 ≤ n → n < 18446744073709551616 →
      ∃ s', readPairU64 ⟨encArrayHead n ++ (encUint a ++ (encUint b ++ rest)), d⟩ = (.err .trailing, s')) := by
  refine ⟨?_, ?_, ?_⟩
  · exact ⟨_, readSeq_visit_err visitPairU64 0 (by omega) rest d hd .length ⟨rest, d - 1⟩ rfl⟩
  · exact ⟨_, readSeq_visit_err visitPairU64 1 (by omega) _ d hd .length ⟨rest, d - 1⟩
      (by rw [visitPairU64_eq, reqElem_succ, bind_ok (bind_ok (readU64_enc a ha _ _) _)]; rfl)⟩
  · intro n hn3 hn
    obtain ⟨m, rfl⟩ : ∃ m, n = m + 3 := ⟨n - 3, by omega⟩
    exact ⟨_, readSeq_leftover visitPairU64 _ hn _ d hd (a, b) m ⟨rest, d - 1⟩
      (by simp only [visitPairU64_eq, reqElem_succ, bind_apply, pure_apply, readU64_enc a ha, readU64_enc b hb])⟩

/-- the faulty endpoint-ID encodings of the property: unknown URI scheme code, ipn node number 0,
    an extra item, the scheme code missing, an ipn address that announces no item, one item, or
    three and more -/
inductive EidFault : Bytes → Prop
  | scheme (code : Nat) (x : Bytes) : code < 24 → code ≠ 1 → code ≠ 2 → EidFault ([0x82, UInt8.ofNat code] ++ x)
  | node0 (svc : Nat) : svc < 24 → EidFault [0x82, 0x02, 0x82, 0x00, UInt8.ofNat svc]
  | extra : EidFault [0x83, 0x01, 0x00, 0x00]
  | noScheme : EidFault [0x80]
  | ipn0 : EidFault ([0x82, 0x02] ++ encArrayHead 0)
  | ipn1 (a : Nat) : a < 18446744073709551616 → EidFault ([0x82, 0x02] ++ (encArrayHead 1 ++ encUint a))
  | ipn3 (n a b : Nat) : 3 ≤ n → n < 18446744073709551616 → a < 18446744073709551616 → b < 18446744073709551616 →
      EidFault ([0x82, 0x02] ++ (encArrayHead n ++ (encUint a ++ encUint b)))

theorem readEid_fault_d (bad : Bytes) (hbad : EidFault bad) (tail : Bytes) (d : Nat) :
    ∃ e s', readEid ⟨bad ++ tail, d + 3⟩ = (.err e, s') := by
  have har := fun a b ha hb => readPairU64_arity a b ha hb tail (d + 2) (by omega)
  -- the visitor fails on what follows the array head (`Lemmas/Codec` has the visitor by scheme code)
  have fails : ∀ n body e s', n < 24 → visitEid (some n) ⟨body, d + 2⟩ = (.err e, s') →
      ∃ e s'', readEid ⟨encArrayHead n ++ body, d + 3⟩ = (.err e, s'') := fun n body e s' hn hv =>
    ⟨e, _, readSeq_visit_err visitEid n (by omega) body (d + 3) (by omega) e s' hv⟩
  have ipn : ∀ x e s', readPairU64 ⟨x, d + 2⟩ = (.err e, s') → ∃ e s'', readEid ⟨[0x82, 0x02] ++ x, d + 3⟩ = (.err e, s'') :=
    fun x e s' hx => fails 2 (encUint 2 ++ x) e s' (by omega) ((visitEid_ipn 1 x _).trans (reqElem_bind_err hx 0 _))
  -- the literal bytes in front pass through `++` by unfolding; only the last case has to re-associate
  cases hbad with
  | scheme code x hc h1 h2 =>
    exact fails 2 _ _ _ (by omega) (encUint_small code hc ▸ visitEid_unknown code (by omega) h1 h2 1 (x ++ tail) _)
  | node0 svc hs =>
    refine fails 2 (encUint 2 ++ (encArrayHead 2 ++ encUint 0 ++ [UInt8.ofNat svc] ++ tail)) .value ⟨tail, d + 2⟩ (by omega)
      ((visitEid_ipn 1 _ _).trans ?_)
    rw [← encUint_small svc hs, reqElem_succ, bind_ok (bind_ok (readPairU64_enc 0 svc (by omega) (by omega) _ (by omega) tail) _)]
    rfl
  | extra =>
    -- `[1, 0]` is read as `dtn:none`, and one announced item is left over
    exact ⟨_, _, readSeq_leftover visitEid 3 (by omega) (encUint 1 ++ (encUint 0 ++ 0x00 :: tail)) (d + 3) (by omega)
      Eid.dtnNone 0 ⟨0x00 :: tail, d + 2⟩ (visitEid_dtn_uint 0 (by omega) (0x00 :: tail) (d + 2) 1)⟩
  | noScheme => exact fails 0 tail .length ⟨tail, d + 2⟩ (by omega) rfl
  | ipn0 => exact (har 0 0 (by omega) (by omega)).1.elim fun _ h => ipn _ _ _ h
  | ipn1 a ha => exact (har a 0 ha (by omega)).2.1.elim fun _ h => ipn _ _ _ h
  | ipn3 n a b hn3 hn ha hb =>
    obtain ⟨s', h⟩ := (har a b ha hb).2.2 n hn3 hn
    simpa [List.append_assoc] using ipn _ _ _ h

theorem readEid_fault (bad : Bytes) (hbad : EidFault bad) (tail : Bytes) :
    ∃ e s', readEid ⟨bad ++ tail, 126⟩ = (.err e, s') := readEid_fault_d bad hbad tail 123

/-- **C19 (endpoint-ID faults at EVERY endpoint-ID position of the primary block).** Destination
    (`k = 3`), source (`k = 4`) or report-to (`k = 5`): an unknown URI scheme code, ipn node
    number 0, an extra item, a missing scheme code, an ipn address with a missing or an extra item —
    the bundle is rejected whatever follows. -/
theorem reject_primary_eid_fault (p : Primary) (h : p.wf = true) (t : Nat) (ht : t < 256) (k : Nat)
    (hk : k = 3 ∨ k = 4 ∨ k = 5) (count : Nat) (hc : count < 24) (hkc : k < count)
    (bad : Bytes) (hbad : EidFault bad) (tail : Bytes) :
    ∃ e, decodeBundle ([0x9f] ++ (encArrayHead count ++ (((primaryItems p t).take k).flatten ++ (bad ++ tail)))) = .err e := by
  apply reject_primary_slot p h t ht k (by omega) count hc hkc
  rcases hk with rfl | rfl | rfl <;> exact readEid_fault bad hbad tail

/-- **C19 (a missing or an extra item in the creation timestamp).** -/
theorem reject_primary_timestamp_arity (p : Primary) (h : p.wf = true) (t : Nat) (ht : t < 256)
    (count : Nat) (hc : count < 24) (hkc : 6 < count) (a b : Nat) (ha : a < 18446744073709551616)
    (hb : b < 18446744073709551616) (tail : Bytes) :
    (∃ e, decodeBundle ([0x9f] ++ (encArrayHead count ++ (((primaryItems p t).take 6).flatten ++ (encArrayHead 0 ++ tail)))) = .err e) ∧
    (∃ e, decodeBundle ([0x9f] ++ (encArrayHead count ++ (((primaryItems p t).take 6).flatten ++ (encArrayHead 1 ++ (encUint a ++ tail))))) = .err e) ∧
    (∀ n, 3 ≤ n → n < 18446744073709551616 →
      ∃ e, decodeBundle ([0x9f] ++ (encArrayHead count ++ (((primaryItems p t).take 6).flatten ++
        (encArrayHead n ++ (encUint a ++ (encUint b ++ tail)))))) = .err e) := by
  have har := readPairU64_arity a b ha hb tail 126 (by omega)
  have key := fun x e s' (hx : readPairU64 ⟨x, 126⟩ = (.err e, s')) =>
    reject_primary_slot p h t ht 6 (by omega) count hc hkc x ⟨e, s', hx⟩
  exact ⟨har.1.elim fun _ => key _ _ _, har.2.1.elim fun _ => key _ _ _,
    fun n hn3 hn => (har.2.2 n hn3 hn).elim fun _ => key _ _ _⟩

theorem fromSlice_map_err {α β} (rd : P α) (f : α → β) (raw : Bytes) (h : ∃ e s', rd ⟨raw, 128⟩ = (.err e, s')) :
    ∃ e, (fromSlice rd raw).map f = .err e := by
  obtain ⟨e, s', h⟩ := h
  exact ⟨e, by rw [fromSlice, h]; rfl⟩

/-- **C19 (extension-block data that is not the item its block type requires — by kind).** The data
    of a bundle age block must be an unsigned integer, that of a hop count block and of a previous
    node block an array: data that is empty or begins with a byte of any other major type (tags
    excepted) does not decode, whatever follows. -/
theorem decodeBtsd_wrong_major (bt : Nat) (hbt : bt = 6 ∨ bt = 7 ∨ bt = 10) (raw : Bytes)
    (hraw : raw = [] ∨ ∃ b rest, raw = b :: rest ∧ b.toNat / 32 ≠ 6 ∧
      b.toNat / 32 ≠ (if bt = 7 then 0 else 4)) :
    ∃ e, decodeBtsd bt raw = .err e := by
  rcases hraw with rfl | ⟨b, rest, rfl, h6, hm⟩
  · rcases hbt with rfl | rfl | rfl <;> exact ⟨.eof, rfl⟩
  · rcases hbt with rfl | rfl | rfl
    · rw [decodeBtsd_prev]
      exact fromSlice_map_err _ _ _ (readEid_wrong_major b rest 128 (by omega) hm h6)
    · rw [decodeBtsd_age]
      exact fromSlice_map_err _ _ _ (readUint_wrong_major b rest 128 (by omega) hm h6).1
    · rw [decodeBtsd_hop]
      exact fromSlice_map_err _ _ _
        (readSeq_wrong_major visitPairU8 (fun acc => (good_visitPairU8 acc).safe) b rest 128 (by omega) hm h6)

/-- **C19 (a canonical block whose data does not decode under its block type).** -/
theorem reject_canon_bad_data (p : Primary) (hp : p.wf = true ∧ p.crc.wire = true)
    (bt num fl t : Nat) (hbt : bt < 18446744073709551616) (hn : num < 18446744073709551616)
    (hf : fl < 256) (ht : t < 256) (raw : Bytes) (hl : raw.length < 18446744073709551616) (e : Err)
    (hd : decodeBtsd bt raw = .err e) (count : Nat) (hc : count < 18446744073709551616) (hc5 : 5 ≤ count) (tail : Bytes) :
    ∃ e, decodeBundle ([0x9f] ++ (encPrimary p ++ (encArrayHead count ++
      (encUint bt ++ (encUint num ++ (encUint fl ++ (encUint t ++ (encBytes raw ++ tail)))))))) = .err e := by
  obtain ⟨n, rfl⟩ : ∃ n, count = n + 5 := ⟨count - 5, by omega⟩
  refine ⟨.other, reject_of_canon_err p hp _ hc _ .other ⟨tail, 126⟩ ?_⟩
  rw [visitCanon_items bt num fl t hbt hn hf ht raw hl, hd]
  rfl

/-- **C19 (bad extension-block data, at bundle level).** After a conformant primary block, a block
    of type 6, 7 or 10 whose data is empty or of the wrong kind: the bundle is rejected. -/
theorem reject_canon_btsd_kind (p : Primary) (hp : p.wf = true ∧ p.crc.wire = true)
    (bt : Nat) (hbt : bt = 6 ∨ bt = 7 ∨ bt = 10) (num fl t : Nat) (hn : num < 18446744073709551616)
    (hf : fl < 256) (ht : t < 256) (raw : Bytes) (hl : raw.length < 18446744073709551616)
    (hraw : raw = [] ∨ ∃ b rest, raw = b :: rest ∧ b.toNat / 32 ≠ 6 ∧ b.toNat / 32 ≠ (if bt = 7 then 0 else 4))
    (count : Nat) (hc : count < 24) (hc5 : 5 ≤ count) (tail : Bytes) :
    ∃ e, decodeBundle ([0x9f] ++ (encPrimary p ++ (encArrayHead count ++
      (encUint bt ++ (encUint num ++ (encUint fl ++ (encUint t ++ (encBytes raw ++ tail)))))))) = .err e := by
  obtain ⟨e, hd⟩ := decodeBtsd_wrong_major bt hbt raw hraw
  exact reject_canon_bad_data p hp bt num fl t (by rcases hbt with rfl | rfl | rfl <;> omega) hn hf ht raw hl e hd
    count (by omega) hc5 tail

/-- **C19 (extension-block data: the required item followed by anything).** The data byte string of
    a bundle age / previous node block must hold exactly one item: a well-formed item
    of the right kind followed by at least one more byte does not decode (`TrailingData`). -/
theorem decodeBtsd_trailing (x : UInt8) (xs : Bytes) :
    (∀ a, a < 18446744073709551616 → decodeBtsd 7 (encUint a ++ x :: xs) = .err .trailing) ∧
    (∀ e : Eid, e.wf = true → decodeBtsd 6 (encEid e ++ x :: xs) = .err .trailing) :=
  ⟨fun a ha => by rw [decodeBtsd_age, fromSlice_trailing readU64 _ a (readU64_enc a ha 128)]; rfl,
   fun e he => by rw [decodeBtsd_prev, fromSlice_trailing readEid _ e (readEid_enc e he 128 (by omega))]; rfl⟩

/-- at bundle level: a bundle age block whose data is an unsigned integer followed by more bytes -/
theorem reject_canon_age_trailing (p : Primary) (hp : p.wf = true ∧ p.crc.wire = true)
    (num fl t a : Nat) (hn : num < 18446744073709551616) (hf : fl < 256) (ht : t < 256) (ha : a < 18446744073709551616)
    (x : UInt8) (xs : Bytes) (hl : (encUint a ++ x :: xs).length < 18446744073709551616)
    (count : Nat) (hc : count < 24) (hc5 : 5 ≤ count) (tail : Bytes) :
    ∃ e, decodeBundle ([0x9f] ++ (encPrimary p ++ (encArrayHead count ++
      (encUint 7 ++ (encUint num ++ (encUint fl ++ (encUint t ++ (encBytes (encUint a ++ x :: xs) ++ tail)))))))) = .err e :=
  reject_canon_bad_data p hp 7 num fl t (by omega) hn hf ht _ hl .trailing ((decodeBtsd_trailing x xs).1 a ha)
    count (by omega) hc5 tail

/-- **C19 (endpoint-ID faults in a previous node block).** The data of a previous node block is an
    endpoint ID: with an unknown URI scheme code, ipn node number 0, an extra item, a missing scheme
    code, or an ipn address of one or three items it does not decode — and neither does the bundle
    that carries the block after a conformant primary block. -/
theorem reject_prevnode_eid_fault (p : Primary) (hp : p.wf = true ∧ p.crc.wire = true)
    (num fl t : Nat) (hn : num < 18446744073709551616) (hf : fl < 256) (ht : t < 256)
    (bad : Bytes) (hbad : EidFault bad) (hl : bad.length < 18446744073709551616)
    (count : Nat) (hc : count < 24) (hc5 : 5 ≤ count) (tail : Bytes) :
    ∃ e, decodeBundle ([0x9f] ++ (encPrimary p ++ (encArrayHead count ++
      (encUint 6 ++ (encUint num ++ (encUint fl ++ (encUint t ++ (encBytes bad ++ tail)))))))) = .err e := by
  obtain ⟨e, hd⟩ : ∃ e, decodeBtsd 6 bad = .err e :=
    fromSlice_map_err readEid _ bad (by simpa using readEid_fault_d bad hbad [] 125)
  exact reject_canon_bad_data p hp 6 num fl t (by omega) hn hf ht bad hl e hd count (by omega) hc5 tail

/-! ### the hypotheses are satisfiable, and the faults are real faults -/

/-- a conformant primary block: version 7, fragment, CRC-16, dtn destination, ipn source -/
def samplePrimary : Primary :=
  { version := 7, flags := 1, crc := .v16 0x12 0x34, dst := .dtn 1 [47, 47, 110, 47, 97], src := .ipn 2 7 1,
    rpt := .null 1 0, ts := 1000, seq := 3, lifetime := 3600000, fragOff := 5, total := 50 }

def sampleCanon : Canon := { btype := 7, num := 2, flags := 0, crc := .no, data := .age 12 }

example : samplePrimary.wf = true ∧ samplePrimary.crc.wire = true ∧ sampleCanon.wf = true := by decide

/-- the wrong-kind theorem is not vacuous: a text string in place of the lifetime, a negative
    integer in place of the version, an unsigned integer in place of the source endpoint ID are
    covered -/
example : ((0x61 : UInt8).toNat / 32 ≠ primarySlotMajor 7 ∧ (0x61 : UInt8).toNat / 32 ≠ 6) ∧
          ((0x20 : UInt8).toNat / 32 ≠ primarySlotMajor 0 ∧ (0x20 : UInt8).toNat / 32 ≠ 6) ∧
          ((0x05 : UInt8).toNat / 32 ≠ primarySlotMajor 4 ∧ (0x05 : UInt8).toNat / 32 ≠ 6) := by decide

example : EidFault [0x82, 0x03, 0x00] ∧ EidFault [0x82, 0x02, 0x82, 0x00, 0x01] ∧ EidFault [0x83, 0x01, 0x00, 0x00] :=
  ⟨.scheme 3 [0x00] (by decide) (by decide) (by decide), .node0 1 (by decide), .extra⟩

end Bp7.C19
