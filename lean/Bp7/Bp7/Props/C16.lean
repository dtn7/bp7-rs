/-
  C16 — BPSec integrity: IPPT and HMAC results follow RFC 9173, the abstract security block
  follows RFC 9172, and the IPPT separates targets that differ in a protected field.
-/
import Bp7.Spec.Bpsec
import Bp7.Lemmas.SpecEq
import Bp7.Lemmas.Cbor
namespace Bp7.C16
open Bp7 Bp7.Bpsec Bp7.Spec

def SecHeader.wf (h : SecHeader) : Prop := h.btype < U64 ∧ h.num < U64 ∧ h.flags < 256

/-- the property's domain for the optional primary block: C01 domain, no CRC -/
def primOk : Option Primary → Prop
  | some p => p.wf = true ∧ p.crc = .no
  | none => True

theorem encPrimary_nocrc (p : Primary) (h : p.wf = true) (hc : p.crc = .no) :
    encPrimary p = encItem (primaryItem p) := by
  rw [encPrimary_eq p h, primaryItem, hc]
  rfl

theorem targetContents_btsd (d : CData) : targetContents false d = encBytes (btsd d) := by
  cases d <;> rfl

theorem targetContents_eq (t : Canon) (h : t.wf = true) :
    targetContents false t.data = encItem (.bstr (btsdBytes t.data)) := by
  rw [targetContents_btsd, encBytes_eq _ (btsd_length t h), btsd_eq t h]

theorem encHeader_eq {btype num flags : Nat} (ht : btype < 18446744073709551616) (hn : num < 18446744073709551616)
    (hf : flags < 256) :
    encUint btype ++ encUint num ++ encUint flags = encItems [.uint btype, .uint num, .uint flags] := by
  rw [encUint_eq btype ht, encUint_eq num hn, encUint_eq flags (by omega)]
  simp only [encItems_cons, encItems_nil, List.append_assoc, List.append_nil]

/-- **C16 (IPPT).** For every scope-flag word, optional primary block of the domain, optional
    security header and well-formed target of any type, the plaintext is the RFC 9173 §3.7
    concatenation. -/
theorem ippt_eq_spec (flags : Nat) (hf : flags < 65536) (primary : Option Primary) (hp : primOk primary)
    (sec : Option SecHeader) (hs : ∀ h, sec = some h → SecHeader.wf h) (t : Canon) (ht : t.wf = true) :
    Bpsec.ippt false flags primary sec t = Spec.ippt flags primary sec t := by
  have F := t.fields (t.wfF_of_wf ht)
  unfold Bpsec.ippt Spec.ippt ipptItems scopeHas
  rw [encHeader_eq F.btype F.num F.flags, targetContents_eq t ht, encUint_eq flags (by omega)]
  simp only [encItems_append, apply_ite encItems, encItems_cons, encItems_nil, List.append_nil]
  -- the two sides differ in the optional primary block and the optional security header
  congr 3
  · cases primary with
    | none => rfl
    | some p => simp only [encItems_cons, encItems_nil, List.append_nil, encPrimary_nocrc p hp.1 hp.2]
  · cases sec with
    | none => rfl
    | some h => exact encHeader_eq (hs h rfl).1 (hs h rfl).2.1 (hs h rfl).2.2

/-- HMAC-SHA2 of RFC 9173 §3.3.1 by SHA variant (RFC 2104 construction over FIPS 180-4) -/
def hmacSha2 (variant : Nat) (key msg : Bytes) : Bytes :=
  if variant = 5 then Sha2.hmac Sha2.sha256 64 key msg
  else if variant = 6 then Sha2.hmac Sha2.sha384 128 key msg
  else Sha2.hmac Sha2.sha512 128 key msg

theorem hmacVariant_eq (v : Nat) (hv : v = 5 ∨ v = 6 ∨ v = 7) (key msg : Bytes) :
    Sha2.hmacVariant v key msg = some (hmacSha2 v key msg) := by
  rcases hv with rfl | rfl | rfl <;> rfl

/-- one result set per IPPT that belongs to a target, in order: a single (id 1, HMAC) pair -/
def resultsOf (targets : List Nat) (v : Nat) (key : Bytes) (ippts : List (Nat × Bytes)) : List (List (Nat × Bytes)) :=
  (ippts.filter (fun x => targets.contains x.1)).map (fun x => [(1, hmacSha2 v key x.2)])

/-- **C16 (results).** For every key, SHA variant 5/6/7, target list and IPPT list: exactly one
    result set per IPPT that belongs to a target, in order, each a single pair
    (result id 1, HMAC-SHA2 of that plaintext with that key); nothing else in the block changes. -/
theorem results_spec (b : Bib) (key : Bytes) (ippts : List (Nat × Bytes)) (p : Params) (i v : Nat)
    (hp : b.params = some p) (hsv : p.shaVariant = some (i, v)) (hv : v = 5 ∨ v = 6 ∨ v = 7) :
    computeHmac false b key ippts = .ok { b with results := resultsOf b.targets v key ippts } := by
  unfold computeHmac resultsOf
  simp only [hp, hsv, hmacVariant_eq v hv, Bool.false_eq_true, if_false, Option.getD_some]
  split
  · rename_i he
    rw [List.isEmpty_iff.1 he]
    rfl
  · rfl

theorem results_single (b b' : Bib) (key : Bytes) (ippts : List (Nat × Bytes)) (p : Params) (i v : Nat)
    (hp : b.params = some p) (hsv : p.shaVariant = some (i, v)) (hv : v = 5 ∨ v = 6 ∨ v = 7)
    (h : computeHmac false b key ippts = .ok b') :
    ∀ r ∈ b'.results, ∃ m, r = [(1, hmacSha2 v key m)] := by
  rw [results_spec b key ippts p i v hp hsv hv] at h
  cases h
  intro r hr
  obtain ⟨x, _, rfl⟩ := List.mem_map.1 hr
  exact ⟨x.2, rfl⟩

def bibSample (results : List (List (Nat × Bytes))) : Bib :=
  { targets := [2], ctxFlags := 1, source := .null 1 0,
    params := some { shaVariant := some (1, 5), wrappedKey := none, scopeFlags := none },
    results := results }

/-- the pinned tree (before the fix) stored the target's block number as result id -/
theorem pinned_result_id (key : Bytes) :
    computeHmac true (bibSample []) key [(2, [])] = .ok (bibSample [[(2, hmacSha2 5 key [])]]) := rfl

/-- … the repaired code stores 1 (non-vacuity of `results_spec`) -/
example (key : Bytes) :
    computeHmac false (bibSample []) key [(2, [])] = .ok (bibSample [[(1, hmacSha2 5 key [])]]) :=
  results_spec (bibSample []) key [(2, [])] _ 1 5 rfl rfl (Or.inl rfl)

/-- value ranges of the Rust types (u64 ids and targets, u8/u16 parameters, Vec lengths) -/
def Params.wf (p : Params) : Prop :=
  (∀ i v, p.shaVariant = some (i, v) → i < 256 ∧ v < 65536)
  ∧ (∀ i k, p.wrappedKey = some (i, k) → i < 256 ∧ k.length < U64)
  ∧ (∀ i f, p.scopeFlags = some (i, f) → i < 256 ∧ f < 65536)

theorem encArray_eq (bs : List Bytes) (xs : List Item) (h : bs = xs.map encItem)
    (hl : xs.length < 18446744073709551616) :
    encArrayHead bs.length ++ bs.flatten = encItem (.arr xs) := by
  rw [h, List.length_map, encArrayHead_eq _ hl, encItem_arr, encItems_eq_flatMap, List.flatMap_def]

theorem paramItems_length (p : Params) : (paramItems p).length ≤ 3 := by
  unfold paramItems
  rcases p.shaVariant with _ | ⟨_, _⟩ <;> rcases p.wrappedKey with _ | ⟨_, _⟩ <;> rcases p.scopeFlags with _ | ⟨_, _⟩ <;>
    simp

theorem encParams_eq (p : Params) (h : Params.wf p) : encParams p = encItem (.arr (paramItems p)) := by
  obtain ⟨h1, h2, h3⟩ := h
  refine encArray_eq _ _ ?_ (by have := paramItems_length p; omega)
  unfold paramItems
  rw [List.map_append, List.map_append]
  congr 1
  congr 1
  · rcases hs : p.shaVariant with _ | ⟨i, v⟩
    · rfl
    · obtain ⟨hi, hv⟩ := h1 i v hs
      exact congrArg (· :: []) (encPair_eq i (by omega) _ _ (encUint_eq v (by omega)))
  · rcases hk : p.wrappedKey with _ | ⟨i, k⟩
    · rfl
    · obtain ⟨hi, hl⟩ := h2 i k hk
      exact congrArg (· :: []) (encPair_eq i (by omega) _ _ (encBytes_eq k hl))
  · rcases hf : p.scopeFlags with _ | ⟨i, f⟩
    · rfl
    · obtain ⟨hi, hv⟩ := h3 i f hf
      exact congrArg (· :: []) (encPair_eq i (by omega) _ _ (encUint_eq f (by omega)))

theorem encResults_ok (rs : List (List (Nat × Bytes))) (h : ∀ r ∈ rs, ∃ i v, r = [(i, v)] ∧ i < U64 ∧ v.length < U64) :
    encResults rs.length rs = .ok (encItems (rs.map fun r => .arr (r.map fun x => .arr [.uint x.1, .bstr x.2]))) := by
  induction rs with
  | nil => rfl
  | cons r rest ih =>
    obtain ⟨⟨i, v, rfl, hi, hv⟩, hrest⟩ := List.forall_mem_cons.1 h
    rw [List.length_cons, encResults, ih hrest, Res.bind_ok,
      encPair_eq i hi _ _ (encBytes_eq v hv), encArrayHead_eq 1 (by omega)]
    simp only [List.map_cons, List.map_nil, encItems_cons, encItems_nil, encItem_arr, List.length_cons, List.length_nil,
      List.append_nil, Nat.reduceAdd]

/-- **C16 (abstract security block).** For every integrity block with parameters present, one
    single-pair result set per target and fields in the range of their Rust types, `to_cbor`
    is the RFC 9172 §3.6 field sequence. -/
theorem asb_eq_spec (b : Bib) (p : Params) (hp : b.params = some p) (hpw : Params.wf p)
    (ht : ∀ x ∈ b.targets, x < U64) (hn : b.targets.length < U64) (hc : b.ctxFlags < 256)
    (hsrc : b.source.wf = true) (hlen : b.results.length = b.targets.length)
    (hr : ∀ r ∈ b.results, ∃ i v, r = [(i, v)] ∧ i < U64 ∧ v.length < U64) :
    asbToCbor b = .ok (encItems (asbItems b p)) := by
  rw [asbToCbor, ← hlen, encResults_ok b.results hr, Res.bind_ok, hp]
  simp only [asbItems, encItems_cons, encItems_nil, encItem_arr, List.length_map, hlen,
    encItems_map b.targets encUint .uint fun x hx => encUint_eq x (ht x hx), encArrayHead_eq _ hn, encUint_eq 1 (by omega),
    encUint_eq b.ctxFlags (by omega), encEid_eq b.source hsrc, encParams_eq p hpw, List.append_nil,
    List.append_assoc]

/-- **C16 (separation).** With the same scope flags, primary block and security header, two
    well-formed targets with the same IPPT have the same block-type-specific data and — when the
    target header is in scope — the same type, number and flags. Contrapositive: targets that differ
    in any protected field never yield the same plaintext. -/
theorem ippt_injective (flags : Nat) (primary : Option Primary) (sec : Option SecHeader) (t1 t2 : Canon)
    (h1 : t1.wf = true) (h2 : t2.wf = true)
    (h : Bpsec.ippt false flags primary sec t1 = Bpsec.ippt false flags primary sec t2) :
    btsd t1.data = btsd t2.data ∧
    (flags.testBit 1 = true → t1.btype = t2.btype ∧ t1.num = t2.num ∧ t1.flags = t2.flags) := by
  have F1 := t1.fields (t1.wfF_of_wf h1)
  have F2 := t2.fields (t2.wfF_of_wf h2)
  unfold Bpsec.ippt scopeHas at h
  rw [targetContents_btsd, targetContents_btsd] at h
  simp only [List.append_assoc] at h
  -- scope flags and primary block are the same on both sides
  have h := List.append_cancel_left (List.append_cancel_left h)
  by_cases hb : flags.testBit 1 = true
  · simp only [hb, if_true, List.append_assoc] at h
    obtain ⟨e1, h⟩ := uint_cancel F1.btype F2.btype h
    obtain ⟨e2, h⟩ := uint_cancel F1.num F2.num h
    obtain ⟨e3, h⟩ := uint_cancel (by have := F1.flags; omega) (by have := F2.flags; omega) h
    exact ⟨encBytes_inj F1.len F2.len (List.append_cancel_left h), fun _ => ⟨e1, e2, e3⟩⟩
  · simp only [hb, Bool.false_eq_true, if_false, List.nil_append] at h
    exact ⟨encBytes_inj F1.len F2.len (List.append_cancel_left h), fun hc => absurd hc hb⟩

/-- for opaque and payload targets "same block-type-specific data" is "same bytes" -/
example (b1 b2 : Bytes) (h : btsd (.data b1) = btsd (.data b2)) : b1 = b2 := h

/-- the pinned tree wrapped opaque data twice: not the RFC concatenation -/
theorem pinned_ippt_differs :
    Bpsec.ippt true 0 none none { btype := 192, num := 2, flags := 0, crc := .no, data := .unknown [7] }
      ≠ Spec.ippt 0 none none { btype := 192, num := 2, flags := 0, crc := .no, data := .unknown [7] } := by
  decide

/-- non-vacuity: RFC 9173 Appendix A.1.  IPPT of the payload block with scope flags 0 -/
def a1Payload : Canon :=
  { btype := 1, num := 1, flags := 0, crc := .no,
    data := .data [0x52, 0x65, 0x61, 0x64, 0x79, 0x20, 0x74, 0x6f, 0x20, 0x67, 0x65, 0x6e, 0x65, 0x72, 0x61, 0x74, 0x65,
                   0x20, 0x61, 0x20, 0x33, 0x32, 0x2d, 0x62, 0x79, 0x74, 0x65, 0x20, 0x70, 0x61, 0x79, 0x6c, 0x6f, 0x61, 0x64] }

example : a1Payload.wf = true := by decide
example : Bpsec.ippt false 0 none (some ⟨11, 2, 0⟩) a1Payload
    = [0x00, 0x58, 0x23] ++ btsd a1Payload.data := by decide

end Bp7.C16
