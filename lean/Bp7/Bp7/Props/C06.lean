/-
  C06 — no input from the network can panic the receive path (PARTIAL: stack and heap
  exhaustion are runtime facts; the model bounds the recursion depth by serde_cbor's counter and
  has no unbounded allocation site, but cannot exhibit an overflow).

  `decode_no_panic`: for EVERY byte string the model of `Bundle::try_from(&[u8])` returns a
  bundle or an error. The only panic site inside the decoder model is serde_cbor's
  `remaining_depth -= 1` on a `u8` that could be 0 (the counter is not restored on the
  "recursion limit exceeded" early return, and `EndpointID`'s visitor swallows that error and
  carries on). The proof shows that every reader is entered with a counter ≥ 1.

  The invariant is compositional: `Keeps` (the primitive readers), `Good` and `Safe` (all a visitor
  needs, since `recursionChecked` gives the level back after it) are closed under `pure`, `P.fail`,
  `>>=` and `if`, and each reader is `Good` by its `>>=` equation (Lemmas/Cbor.lean). The swallowed
  error is the one step that is not a `>>=`: `recover m a` is `Safe` when `m` is, and no more than
  that, since the counter may be 0 after it.
-/
import Bp7.Lemmas.Codec
import Bp7.Model.Admin
namespace Bp7.C06
open Bp7

/-- no panic when entered with a positive depth counter -/
def Safe {α} (f : P α) : Prop := ∀ s : St, 1 ≤ s.depth → (f s).1.isPanic = false

/-- `Safe`, and on success the counter is positive again (the next reader may run) -/
def Good {α} (f : P α) : Prop :=
  ∀ s : St, 1 ≤ s.depth → (f s).1.isPanic = false ∧ ((f s).1.isOk = true → 1 ≤ (f s).2.depth)

/-- never a panic, and the depth counter is left alone -/
def Keeps {α} (f : P α) : Prop := ∀ s : St, (f s).1.isPanic = false ∧ (f s).2.depth = s.depth

theorem Good.safe {α} {f : P α} (h : Good f) : Safe f := fun s hs => (h s hs).1
theorem Keeps.good {α} {f : P α} (h : Keeps f) : Good f := fun s hs => ⟨(h s).1, fun _ => (h s).2 ▸ hs⟩

theorem keeps_pure {α} (a : α) : Keeps (pure a : P α) := fun _ => ⟨rfl, rfl⟩
theorem keeps_fail {α} (e : Err) : Keeps (P.fail e : P α) := fun _ => ⟨rfl, rfl⟩
theorem good_pure {α} (a : α) : Good (pure a : P α) := (keeps_pure a).good
theorem good_fail {α} (e : Err) : Good (P.fail e : P α) := (keeps_fail e).good

theorem keeps_bind {α β} {m : P α} {f : α → P β} (hm : Keeps m) (hf : ∀ a, Keeps (f a)) : Keeps (m >>= f) := by
  intro s
  have h := hm s
  rw [bind_apply]
  generalize m s = r at h ⊢
  rcases r with ⟨a | e | p, s'⟩
  · exact ⟨(hf a s').1, (hf a s').2.trans h.2⟩
  · exact h
  · exact h

theorem good_bind {α β} {m : P α} {f : α → P β} (hm : Good m) (hf : ∀ a, Good (f a)) : Good (m >>= f) := by
  intro s hs
  have h := hm s hs
  rw [bind_apply]
  generalize m s = r at h ⊢
  rcases r with ⟨a | e | p, s'⟩
  · exact hf a s' (h.2 rfl)
  · exact ⟨rfl, nofun⟩
  · exact absurd h.1 nofun

theorem safe_bind {α β} {m : P α} {f : α → P β} (hm : Good m) (hf : ∀ a, Safe (f a)) : Safe (m >>= f) := by
  intro s hs
  have h := hm s hs
  rw [bind_apply]
  generalize m s = r at h ⊢
  rcases r with ⟨a | e | p, s'⟩
  · exact hf a s' (h.2 rfl)
  · rfl
  · exact h.1

/-- after a reader that is only `Safe` the counter may be 0: what follows must not need it -/
theorem safe_bind_keeps {α β} {m : P α} {f : α → P β} (hm : Safe m) (hf : ∀ a, Keeps (f a)) : Safe (m >>= f) := by
  intro s hs
  have h := hm s hs
  rw [bind_apply]
  generalize m s = r at h ⊢
  rcases r with ⟨a | e | p, s'⟩
  · exact (hf a s').1
  · rfl
  · exact h

theorem safe_recover {α} {m : P α} (hm : Safe m) (a : α) : Safe (recover m a) := by
  intro s hs
  have h := hm s hs
  unfold recover
  generalize m s = r at h ⊢
  rcases r with ⟨_ | _ | _, s'⟩
  · exact h
  · rfl
  · exact h

theorem keeps_ite {α} (c : Prop) [Decidable c] {a b : P α} (ha : Keeps a) (hb : Keeps b) : Keeps (if c then a else b) := by
  split <;> assumption
theorem good_ite {α} (c : Prop) [Decidable c] {a b : P α} (ha : Good a) (hb : Good b) : Good (if c then a else b) := by
  split <;> assumption
theorem safe_ite {α} (c : Prop) [Decidable c] {a b : P α} (ha : Safe a) (hb : Safe b) : Safe (if c then a else b) := by
  split <;> assumption

/-- post-processing of a successful `takeN` / `readChunks` by a panic-free function -/
theorem good_post {α β} (m : P α) (hm : Good m) (g : α → Res β) (hg : ∀ a, (g a).isPanic = false) :
    Good (fun s => match m s with
      | (.ok b, s') => (g b, s')
      | (.err e, s') => (.err e, s')
      | (.panic p, s') => (.panic p, s')) :=
  good_bind hm (f := fun a s' => (g a, s')) fun a _ hs => ⟨hg a, fun _ => hs⟩

theorem utf8_res_nopanic (b : Bytes) (e : Err) : (if validUtf8 b = true then Res.ok b else Res.err e).isPanic = false := by
  split <;> rfl

theorem good_recursionChecked {α} (f : P α) (hf : Safe f) : Good (recursionChecked f) := by
  intro s hs
  unfold recursionChecked
  have h0 : ¬ s.depth = 0 := by omega
  simp only [h0, if_false]
  by_cases h1 : s.depth - 1 = 0
  · simp [h1, Res.isPanic, Res.isOk]
  · simp only [h1, if_false]
    exact ⟨hf { s with depth := s.depth - 1 } (by simp; omega), fun _ => by simp⟩

theorem keeps_takeN (n : Nat) : Keeps (takeN n) := by
  intro s; unfold takeN; split <;> exact ⟨rfl, rfl⟩

theorem keeps_readArg (ai : Nat) : Keeps (readArg ai) := by
  rw [readArg_eq]
  exact keeps_ite _ (keeps_pure _) (keeps_bind (keeps_takeN _) fun _ => keeps_pure _)

theorem keeps_readHead : Keeps readHead := by
  rintro ⟨_ | ⟨b, rest⟩, d⟩
  · exact ⟨rfl, rfl⟩
  · exact readHead_cases b rest d (fun r => r.1.isPanic = false ∧ r.2.depth = d) (fun _ _ => ⟨rfl, rfl⟩) ⟨rfl, rfl⟩
      fun _ _ => keeps_bind (keeps_readArg _) (fun _ => keeps_pure _) ⟨rest, d⟩

theorem keeps_readChunks (major : Nat) : ∀ (fuel : Nat) (acc : Bytes), Keeps (readChunks major fuel acc)
  | 0, _ => keeps_fail _
  | fuel+1, acc => by
    rintro ⟨_ | ⟨b, rest⟩, d⟩
    · exact ⟨rfl, rfl⟩
    · rw [readChunks_cons]
      exact keeps_ite _ (keeps_pure _) (keeps_ite _ (keeps_bind (keeps_readArg _) fun _ =>
        keeps_bind (keeps_takeN _) fun _ => keeps_readChunks major fuel _) (keeps_fail _)) ⟨rest, d⟩

theorem keeps_chunks (major : Nat) : Keeps (chunks major) := fun s => keeps_readChunks major _ [] s

theorem keeps_seqEnd (acc : Acc) : Keeps (seqEnd acc) := by
  intro s
  unfold seqEnd
  split
  · exact ⟨rfl, rfl⟩
  · exact ⟨rfl, rfl⟩
  · split
    · exact ⟨rfl, rfl⟩
    · split <;> exact ⟨rfl, rfl⟩

theorem good_reject {α} (h : Head) : Good (reject h : P α) := by
  cases h with
  | bytes len => rw [reject_bytes]; exact (keeps_bind (keeps_takeN _) fun _ => keeps_fail _).good
  | text len =>
    rw [reject_text]; exact (keeps_bind (keeps_takeN _) fun _ => keeps_ite _ (keeps_fail _) (keeps_fail _)).good
  | bytesI => rw [reject_bytesI]; exact (keeps_bind (keeps_chunks _) fun _ => keeps_fail _).good
  | textI =>
    rw [reject_textI]; exact (keeps_bind (keeps_chunks _) fun _ => keeps_ite _ (keeps_fail _) (keeps_fail _)).good
  | array _ | arrayI | map _ | mapI => exact good_recursionChecked _ (good_fail .type).safe
  | _ => exact good_fail .type

theorem good_parseWith {α} (k : Head → P α) (hk : ∀ h, Good (k h)) : ∀ fuel, Good (parseWith k fuel)
  | 0 => good_fail .other
  | fuel+1 => by
    rw [parseWith_succ]
    refine good_bind keeps_readHead.good fun h => ?_
    cases h with
    | tag _ => exact good_recursionChecked _ (good_parseWith k hk fuel).safe
    | _ => exact hk _

theorem good_kUint (bound : Nat) (h : Head) : Good (kUint bound h) := by
  cases h with
  | uint n => exact good_ite _ (good_pure _) (good_fail _)
  | _ => exact good_reject _

theorem good_readU64 : Good readU64 := good_parseWith _ (good_kUint _) _
theorem good_readU32 : Good readU32 := good_parseWith _ (good_kUint _) _
theorem good_readU8 : Good readU8 := good_parseWith _ (good_kUint _) _

theorem good_kBool (h : Head) : Good (kBool h) := by
  cases h with
  | bool b => exact good_pure _
  | _ => exact good_reject _
theorem good_readBool : Good readBool := good_parseWith _ good_kBool _

theorem keeps_utf8Or (e : Err) (b : Bytes) : Keeps (utf8Or e b) := keeps_ite _ (keeps_pure _) (keeps_fail _)

theorem good_kString (h : Head) : Good (kString h) := by
  cases h with
  | text len => rw [kString_text]; exact (keeps_bind (keeps_takeN _) (keeps_utf8Or _)).good
  | bytes len => rw [kString_bytes]; exact (keeps_bind (keeps_takeN _) (keeps_utf8Or _)).good
  | textI => rw [kString_textI]; exact (keeps_bind (keeps_chunks _) (keeps_utf8Or _)).good
  | bytesI => rw [kString_bytesI]; exact (keeps_bind (keeps_chunks _) (keeps_utf8Or _)).good
  | _ => exact good_reject _
theorem good_readString : Good readString := good_parseWith _ good_kString _

theorem good_nextElem {α} (rd : P α) (hrd : Good rd) : ∀ acc, Good (nextElem rd acc)
  | some 0 => good_pure _
  | some (n+1) => by rw [nextElem_succ]; exact good_bind hrd fun _ => good_pure _
  | none => by
    rintro ⟨_ | ⟨b, rest⟩, d⟩ hs
    · exact ⟨rfl, nofun⟩
    · rw [nextElem_none_cons]
      split
      · exact ⟨rfl, fun _ => hs⟩
      · exact good_bind hrd (fun _ => good_pure _) _ hs

theorem good_reqElem {α} (rd : P α) (hrd : Good rd) (acc : Acc) : Good (reqElem rd acc) := by
  rw [reqElem_eq]
  refine good_bind (good_nextElem rd hrd acc) fun r => ?_
  rcases r with ⟨_ | a, acc'⟩
  · exact good_fail _
  · exact good_pure _

theorem good_kSeq {α} (visit : Acc → P (α × Acc)) (hv : ∀ acc, Safe (visit acc)) (h : Head) : Good (kSeq visit h) := by
  have body : ∀ acc, Safe (seqBody visit acc) := fun acc =>
    safe_bind_keeps (hv acc) fun r => keeps_bind (keeps_seqEnd r.2) fun _ => keeps_pure _
  cases h with
  | array len => rw [kSeq_array]; exact good_recursionChecked _ (body _)
  | arrayI => rw [kSeq_arrayI]; exact good_recursionChecked _ (body _)
  | _ => exact good_reject _

theorem good_readSeq {α} (visit : Acc → P (α × Acc)) (hv : ∀ acc, Safe (visit acc)) : Good (readSeq visit) :=
  good_parseWith _ (good_kSeq visit hv) _

theorem good_collectElems {α} (rd : P α) (hrd : Good rd) : ∀ fuel (out : List α) (acc : Acc), Good (collectElems rd fuel out acc)
  | 0, _, _ => good_fail .other
  | fuel+1, out, acc => by
    rw [collectElems_succ]
    refine good_bind (good_nextElem rd hrd acc) fun r => ?_
    rcases r with ⟨_ | a, acc'⟩
    · exact good_pure _
    · exact good_collectElems rd hrd fuel _ acc'

theorem good_collect {α} (rd : P α) (hrd : Good rd) (acc : Acc) :
    Good (fun s => collectElems rd (s.inp.length + 1) [] acc s) :=
  fun s hs => good_collectElems rd hrd _ [] acc s hs

theorem good_kByteBuf (h : Head) : Good (kByteBuf h) := by
  have hseq : ∀ acc, Safe (u8Seq acc) := fun acc =>
    (good_bind (good_collect readU8 good_readU8 acc) fun _ => good_pure _).safe
  cases h with
  | bytes len => exact (keeps_takeN len).good
  | bytesI => exact (keeps_chunks 2).good
  -- serde_bytes treats text exactly as the `String` visitor does (the two cases are the same term)
  | text len => exact good_kString (.text len)
  | textI => exact good_kString .textI
  | array len => rw [kByteBuf_array]; exact good_kSeq _ hseq _
  | arrayI => rw [kByteBuf_arrayI]; exact good_kSeq _ hseq _
  | _ => exact good_reject _

theorem good_readByteBuf : Good readByteBuf := good_parseWith _ good_kByteBuf _

theorem fromSlice_nopanic {α} (rd : P α) (hrd : Good rd) (b : Bytes) : (fromSlice rd b).isPanic = false := by
  unfold fromSlice
  have h := (hrd { inp := b, depth := 128 } (by show 1 ≤ 128; decide)).1
  generalize rd { inp := b, depth := 128 } = r at h ⊢
  rcases r with ⟨a | e | p, s⟩
  · dsimp only; split <;> rfl
  · rfl
  · exact h

theorem good_visitPairU64 (acc : Acc) : Good (visitPairU64 acc) := by
  rw [visitPairU64_eq]
  exact good_bind (good_reqElem _ good_readU64 _) fun _ => good_bind (good_reqElem _ good_readU64 _) fun _ => good_pure _
theorem good_readPairU64 : Good readPairU64 := good_readSeq _ (fun acc => (good_visitPairU64 acc).safe)

theorem good_visitPairU8 (acc : Acc) : Good (visitPairU8 acc) :=
  good_bind (good_reqElem _ good_readU8 _) fun _ => good_bind (good_reqElem _ good_readU8 _) fun _ => good_pure _

/-- `EndpointIDVisitor::visit_seq`: after the swallowed error no further read happens -/
theorem safe_visitEid (acc : Acc) : Safe (visitEid acc) := by
  rw [visitEid_eq]
  refine safe_bind (good_reqElem _ good_readU8 _) fun r =>
    safe_ite _ (safe_recover ?_ _) (safe_ite _ ?_ (good_fail _).safe)
  · refine (good_bind (good_nextElem _ good_readString _) fun q => ?_).safe
    rcases q with ⟨_ | _, _⟩ <;> exact good_pure _
  · exact safe_bind (good_reqElem _ good_readPairU64 _) fun _ => (good_ite _ (good_pure _) (good_fail _)).safe

theorem good_readEid : Good readEid := good_readSeq _ safe_visitEid

theorem good_visitCrc (code : Nat) (acc : Acc) : Good (visitCrc code acc) := by
  have field : ∀ (f : Bytes × Acc → P (CrcVal × Acc)), (∀ r, Good (f r)) → Good (reqElem readByteBuf acc >>= f) :=
    fun f hf => good_bind (good_reqElem _ good_readByteBuf _) hf
  rw [visitCrc_eq]
  refine good_ite _ (good_pure _) (good_ite _ (field _ fun r => ?_) (good_ite _ (field _ fun r => ?_) (good_pure _)))
  all_goals
    split
    · exact good_pure _
    · exact good_fail _

theorem safe_visitPrimary (acc : Acc) : Safe (visitPrimary acc) := by
  unfold visitPrimary
  refine safe_bind (good_reqElem _ good_readU32 _) fun ⟨version, acc⟩ => ?_
  refine safe_bind (good_reqElem _ good_readU64 _) fun ⟨flags, acc⟩ => ?_
  refine safe_bind (good_reqElem _ good_readU8 _) fun ⟨crcType, acc⟩ => ?_
  refine safe_bind (good_reqElem _ good_readEid _) fun ⟨dst, acc⟩ => ?_
  refine safe_bind (good_reqElem _ good_readEid _) fun ⟨src, acc⟩ => ?_
  refine safe_bind (good_reqElem _ good_readEid _) fun ⟨rpt, acc⟩ => ?_
  refine safe_bind (good_reqElem _ good_readPairU64 _) fun ⟨⟨ts, seq⟩, acc⟩ => ?_
  refine safe_bind (good_reqElem _ good_readU64 _) fun ⟨lifetime, acc⟩ => ?_
  refine safe_bind (good_ite _ ?_ (good_pure _)) fun ⟨⟨fragOff, total⟩, acc⟩ => ?_
  · exact good_bind (good_reqElem _ good_readU64 _) fun _ => good_bind (good_reqElem _ good_readU64 _) fun _ => good_pure _
  · exact safe_bind (good_visitCrc crcType acc) fun _ => (good_pure _).safe

theorem good_readPrimary : Good readPrimary := good_readSeq _ safe_visitPrimary

theorem map_nopanic {α β} (r : Res α) (f : α → β) (h : r.isPanic = false) : (r.map f).isPanic = false := by
  cases r <;> first | rfl | exact h

theorem decodeBtsd_nopanic (btype : Nat) (raw : Bytes) : (decodeBtsd btype raw).isPanic = false :=
  let Q := fun r : Res CData => r.isPanic = false
  iteInduction (motive := Q) (fun _ => rfl) fun _ =>
  iteInduction (motive := Q) (fun _ => map_nopanic _ _ (fromSlice_nopanic _ good_readU64 raw)) fun _ =>
  iteInduction (motive := Q) (fun _ => map_nopanic _ _ (fromSlice_nopanic _ (good_readSeq _ fun acc => (good_visitPairU8 acc).safe) raw)) fun _ =>
  iteInduction (motive := Q) (fun _ => map_nopanic _ _ (fromSlice_nopanic _ good_readEid raw)) fun _ => rfl

theorem good_liftRes {α} (r : Res α) (h : r.isPanic = false) : Good (liftRes r) := by
  intro s hs
  cases r with
  | ok a => exact ⟨rfl, fun _ => hs⟩
  | err e => exact ⟨rfl, nofun⟩
  | panic p => exact absurd h nofun

theorem safe_visitCanon (acc : Acc) : Safe (visitCanon acc) := by
  unfold visitCanon
  refine safe_bind (good_reqElem _ good_readU64 _) fun ⟨btype, acc⟩ => ?_
  refine safe_bind (good_reqElem _ good_readU64 _) fun ⟨num, acc⟩ => ?_
  refine safe_bind (good_reqElem _ good_readU8 _) fun ⟨flags, acc⟩ => ?_
  refine safe_bind (good_reqElem _ good_readU8 _) fun ⟨crcType, acc⟩ => ?_
  refine safe_bind (good_reqElem _ good_readByteBuf _) fun ⟨raw, acc⟩ => ?_
  refine safe_bind (good_liftRes _ (decodeBtsd_nopanic btype raw)) fun data => ?_
  exact safe_bind (good_visitCrc crcType acc) fun _ => (good_pure _).safe

theorem good_readCanon : Good readCanon := good_readSeq _ safe_visitCanon

theorem safe_visitBundle (acc : Acc) : Safe (visitBundle acc) := by
  rw [visitBundle_eq]
  exact safe_bind (good_reqElem _ good_readPrimary _) fun r =>
    safe_bind (good_collect readCanon good_readCanon r.2) fun _ => (good_pure _).safe

theorem good_readBundle : Good readBundle := good_readSeq _ safe_visitBundle

/-- **C06 (decoder).** For every byte string, decoding returns a bundle or an error, never a
    panic: in particular serde_cbor's depth counter is never decremented below zero, although
    it is not restored on the "recursion limit exceeded" path and that error can be swallowed. -/
theorem decode_no_panic (bs : Bytes) : (decodeBundle bs).isPanic = false :=
  fromSlice_nopanic readBundle good_readBundle bs

theorem decode_total (bs : Bytes) : (∃ b, decodeBundle bs = .ok b) ∨ (∃ e, decodeBundle bs = .err e) := by
  have := decode_no_panic bs
  cases h : decodeBundle bs with
  | ok b => exact Or.inl ⟨b, rfl⟩
  | err e => exact Or.inr ⟨e, rfl⟩
  | panic p => simp [h, Res.isPanic] at this

/-- the payload decoded as an administrative record: no panic either -/
theorem decode_admin_no_panic (bs : Bytes) : (decodeAdmin bs).isPanic = false := by
  have hitem : ∀ acc, Safe (visitItem acc) := fun acc =>
    safe_bind (good_reqElem _ good_readBool _) fun _ =>
      safe_ite _ (safe_bind (good_reqElem _ good_readU64 _) fun _ => (good_pure _).safe) (good_pure _).safe
  have gitems : Good readItems := good_readSeq _ fun acc => (good_collect readItem (good_readSeq _ hitem) acc).safe
  have hrep : ∀ acc, Safe (visitReport acc) := fun acc =>
    safe_bind (good_reqElem _ gitems _) fun _ =>
    safe_bind (good_reqElem _ good_readU32 _) fun _ =>
    safe_bind (good_reqElem _ good_readEid _) fun _ =>
    safe_bind (good_reqElem _ good_readPairU64 _) fun _ =>
      safe_ite _
        (safe_bind (good_reqElem _ good_readU64 _) fun _ =>
          safe_bind (good_reqElem _ good_readU64 _) fun _ => (good_pure _).safe)
        (good_pure _).safe
  have hadm : ∀ acc, Safe (visitAdmin acc) := fun acc =>
    safe_bind (good_reqElem _ good_readU32 _) fun _ =>
      safe_ite _ (safe_bind (good_reqElem _ (good_readSeq _ hrep) _) fun _ => (good_pure _).safe)
        (safe_bind (good_reqElem _ good_readByteBuf _) fun _ => (good_pure _).safe)
  exact fromSlice_nopanic readAdmin (good_readSeq _ hadm) bs

/-! ### what the pinned tree did on decoded input (witnesses; all fixed, see known_findings.txt) -/

/-- F12: a dtn ssp without slashes made `node()` panic -/
theorem pinned_node_name_panics : dtnNodeNamePinned (asc "abc") = .panic .nodeName := by decide
/-- now: the empty node name, and validation rejects the endpoint ID -/
example : dtnNodeName (asc "abc") = [] ∧ eidOk (.dtn 1 (asc "abc")) = false := by decide

/-- the depth counter really is left one too low after a swallowed "recursion limit" error, and
    the next sibling is then rejected (not a panic): 124 tags, then bundle, primary, a dtn EID
    whose ssp is itself tagged -/
example :
    (decodeBundle (List.replicate 124 0xc1 ++ [0x9f, 0x88, 7, 0, 0, 0x82, 1, 0xc1, 0x00, 0x82, 1, 0, 0x82, 1, 0, 0x82, 0, 0, 0, 0xff])).isErr
      = true := by decide +kernel

end Bp7.C06
