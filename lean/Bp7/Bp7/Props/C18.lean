/-
  C18 — hex helpers are mutually inverse and reject malformed text without panic.
  Property theorems only; the model is Bp7/Model/Hex.lean.
-/
import Bp7.Model.Hex
namespace Bp7.C18
open Bp7

/-- ASCII lower-casing of a byte (`A`–`Z` only). -/
def lowerByte (c : UInt8) : UInt8 :=
  if 65 ≤ c.toNat ∧ c.toNat ≤ 90 then UInt8.ofNat (c.toNat + 32) else c

theorem hexVal_eq_some {c : UInt8} {v : Nat} (h : hexVal c = some v) :
    ((48 ≤ c.toNat ∧ c.toNat ≤ 57) ∧ v = c.toNat - 48) ∨
    ((97 ≤ c.toNat ∧ c.toNat ≤ 102) ∧ v = c.toNat - 87) ∨
    ((65 ≤ c.toNat ∧ c.toNat ≤ 70) ∧ v = c.toNat - 55) := by
  simp only [hexVal] at h
  split at h
  · cases h; exact .inl ⟨‹_›, rfl⟩
  split at h
  · cases h; exact .inr (.inl ⟨‹_›, rfl⟩)
  split at h
  · cases h; exact .inr (.inr ⟨‹_›, rfl⟩)
  · cases h

theorem hexVal_lt {c : UInt8} {v : Nat} (h : hexVal c = some v) : v < 16 := by
  have := hexVal_eq_some h; omega

theorem hexDigit_isHex (n : Nat) (h : n < 16) : hexVal (hexDigit n) = some n := by
  have : ∀ n : Fin 16, hexVal (hexDigit n.val) = some n.val := by decide
  exact this ⟨n, h⟩

/-- a hex digit is ASCII, and is not '+' -/
theorem toNat_of_hex {c : UInt8} (h : isHexDigit c = true) : c.toNat < 128 ∧ c.toNat ≠ 43 := by
  obtain ⟨v, hv⟩ := Option.isSome_iff_exists.mp h
  have := hexVal_eq_some hv; omega

theorem hexDigit_lower (a : UInt8) (x : Nat) (h : hexVal a = some x) : hexDigit x = lowerByte a := by
  have e : UInt8.ofNat a.toNat = a := UInt8.ofNat_toNat
  rcases hexVal_eq_some h with ⟨hr, rfl⟩ | ⟨hr, rfl⟩ | ⟨hr, rfl⟩
  · rw [hexDigit, if_pos (by omega), lowerByte, if_neg (by omega), show 48 + (a.toNat - 48) = a.toNat by omega, e]
  · rw [hexDigit, if_neg (by omega), lowerByte, if_neg (by omega), show 87 + (a.toNat - 87) = a.toNat by omega, e]
  · rw [hexDigit, if_neg (by omega), lowerByte, if_pos (by omega), show 87 + (a.toNat - 55) = a.toNat + 32 by omega]

/-- The value the well-formed case denotes. -/
def pairVal (a b : UInt8) : UInt8 :=
  UInt8.ofNat (((hexVal a).getD 0) * 16 + ((hexVal b).getD 0))

def unhexSpec : Bytes → Bytes
  | a :: b :: rest => pairVal a b :: unhexSpec rest
  | _ => []

theorem fromStrRadix16_hex {a b : UInt8} (ha : isHexDigit a = true) (hb : isHexDigit b = true) :
    fromStrRadix16 a b = .ok (pairVal a b) := by
  obtain ⟨x, hx⟩ := Option.isSome_iff_exists.mp ha
  obtain ⟨y, hy⟩ := Option.isSome_iff_exists.mp hb
  simp [fromStrRadix16, pairVal, (toNat_of_hex ha).2, hx, hy]

theorem unhexLoop_hex : ∀ (s : Bytes), s.length % 2 = 0 → s.all isHexDigit = true →
    unhexLoop s = .ok (unhexSpec s)
  | [], _, _ => rfl
  | [_], h, _ => by simp at h
  | a :: b :: rest, h, hall => by
    have hlen : rest.length % 2 = 0 := by simp at h; omega
    simp only [List.all_cons, Bool.and_eq_true] at hall
    obtain ⟨ha, hb, hrest⟩ := hall
    have ih := unhexLoop_hex rest hlen hrest
    unfold unhexLoop
    cases rest with
    | nil => simp [fromStrRadix16_hex ha hb, unhexSpec]
    | cons c rest' =>
      -- the next byte is a hex digit, hence ASCII: the slice ends on a character boundary
      have hc : isCharStart c = true := by
        simp only [List.all_cons, Bool.and_eq_true] at hrest
        simp [isCharStart, (toNat_of_hex hrest.1).1]
      simp only [hc, if_true, fromStrRadix16_hex ha hb, ih, Res.bind_ok]
      rfl

theorem unhexify_eq (s : Bytes) :
    unhexify s = if s.length % 2 = 0 ∧ s.all isHexDigit = true then .ok (unhexSpec s) else .err .parse := by
  by_cases h1 : s.length % 2 = 0 <;> by_cases h2 : s.all isHexDigit = true <;>
    simp [unhexify, h1, h2, unhexLoop_hex s]

theorem hexVal_nibbles (b : UInt8) :
    hexVal (hexDigit (b.toNat / 16)) = some (b.toNat / 16) ∧
    hexVal (hexDigit (b.toNat % 16)) = some (b.toNat % 16) :=
  ⟨hexDigit_isHex _ (by have := b.toNat_lt; omega), hexDigit_isHex _ (by omega)⟩

theorem hexify_allHex : ∀ bs : Bytes, (hexify bs).all isHexDigit = true
  | [] => rfl
  | b :: bs => by simp [hexify, isHexDigit, hexVal_nibbles b, hexify_allHex bs]

theorem hexify_length : ∀ bs : Bytes, (hexify bs).length = 2 * bs.length
  | [] => rfl
  | b :: bs => by simp [hexify, hexify_length bs]; omega

theorem unhexSpec_hexify : ∀ bs : Bytes, unhexSpec (hexify bs) = bs
  | [] => rfl
  | b :: bs => by
    simp only [hexify, unhexSpec, pairVal, hexVal_nibbles b, Option.getD_some, unhexSpec_hexify bs]
    rw [show b.toNat / 16 * 16 + b.toNat % 16 = b.toNat by omega, UInt8.ofNat_toNat]

theorem lower_pair (a b : UInt8) (ha : isHexDigit a = true) (hb : isHexDigit b = true) :
    hexDigit ((pairVal a b).toNat / 16) = lowerByte a ∧
    hexDigit ((pairVal a b).toNat % 16) = lowerByte b := by
  obtain ⟨x, hx⟩ := Option.isSome_iff_exists.mp ha
  obtain ⟨y, hy⟩ := Option.isSome_iff_exists.mp hb
  have hxl := hexVal_lt hx
  have hyl := hexVal_lt hy
  have hv : (pairVal a b).toNat = x * 16 + y := by
    simp only [pairVal, hx, hy, Option.getD_some, UInt8.toNat_ofNat']
    omega
  rw [hv, show (x * 16 + y) / 16 = x by omega, show (x * 16 + y) % 16 = y by omega]
  exact ⟨hexDigit_lower a x hx, hexDigit_lower b y hy⟩

theorem hexify_unhexSpec : ∀ s : Bytes, s.length % 2 = 0 → s.all isHexDigit = true →
    hexify (unhexSpec s) = s.map lowerByte
  | [], _, _ => rfl
  | [_], h, _ => by simp at h
  | a :: b :: rest, h, hall => by
    have hlen : rest.length % 2 = 0 := by simp at h; omega
    simp only [List.all_cons, Bool.and_eq_true] at hall
    obtain ⟨ha, hb, hrest⟩ := hall
    have := lower_pair a b ha hb
    simp [unhexSpec, hexify, this.1, this.2, hexify_unhexSpec rest hlen hrest]

/-- C18 (a): bytes -> hex -> bytes is the identity, for every byte string. -/
theorem unhex_hex (bs : Bytes) : unhexify (hexify bs) = .ok bs := by
  rw [unhexify_eq, if_pos ⟨by rw [hexify_length]; omega, hexify_allHex bs⟩, unhexSpec_hexify]

/-- C18 (c): every string that is not an even-length string of hex digits is rejected
    with an error (never a panic, never a byte string). -/
theorem unhex_rejects (s : Bytes) (h : ¬ (s.length % 2 = 0 ∧ s.all isHexDigit = true)) :
    unhexify s = .err .parse := by
  rw [unhexify_eq, if_neg h]

/-- C18 (b): even-length hex string -> bytes -> hex gives the same string in lower case. -/
theorem hex_unhex_lower (s : Bytes) (h : s.length % 2 = 0 ∧ s.all isHexDigit = true) :
    ∃ v, unhexify s = .ok v ∧ hexify v = s.map lowerByte :=
  ⟨unhexSpec s, by rw [unhexify_eq, if_pos h], hexify_unhexSpec s h.1 h.2⟩

/-- Totality: no string makes `unhexify` panic. -/
theorem unhex_no_panic (s : Bytes) : (unhexify s).isPanic = false := by
  rw [unhexify_eq]; split <;> rfl

/-- Never a silently different byte string: whenever the result is `ok v`, the input was an
    even-length hex string and `v` prints back to it (up to case). -/
theorem unhex_ok_faithful (s v : Bytes) (h : unhexify s = .ok v) :
    s.length % 2 = 0 ∧ s.all isHexDigit = true ∧ hexify v = s.map lowerByte := by
  rw [unhexify_eq] at h
  split at h <;> cases h
  rename_i hg
  exact ⟨hg.1, hg.2, hexify_unhexSpec s hg.1 hg.2⟩

/-! Non-vacuity and the F8 witnesses (the pinned, unguarded loop violates the property). -/
example : unhexify [0x41, 0x66] = .ok [0xaf] := by decide
example : ([0x41, 0x66] : Bytes).length % 2 = 0 ∧ ([0x41, 0x66] : Bytes).all isHexDigit = true := by decide
/-- "abc": odd length -> slice out of range panic on the pinned tree. -/
theorem pinned_odd_panics : unhexifyPinned [0x61, 0x62, 0x63] = .panic .sliceRange := by decide
/-- "0é": char-boundary panic on the pinned tree. -/
theorem pinned_nonascii_panics : unhexifyPinned [0x30, 0xc3, 0xa9] = .panic .charBoundary := by decide
/-- "+f": silently accepted as [15] on the pinned tree. -/
theorem pinned_sign_accepted : unhexifyPinned [0x2b, 0x66] = .ok [15] := by decide

end Bp7.C18
