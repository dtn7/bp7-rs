/-
  C14 — C FFI: null on invalid input; every returned object frees cleanly (PARTIAL: the ledger
  model cannot exhibit out-of-bounds access or use-after-free inside the library; that part of
  the property is covered only by running the real code under the counting allocator /
  sanitizer-style checks in the harness).
-/
import Bp7.Model.Ffi
namespace Bp7.C14
open Bp7 Bp7.Ffi

/-- **C14 (null on invalid input).** Decoding a buffer that is not a valid bundle returns a null
    pointer and leaves the ledger untouched (no abort, no allocation kept). -/
theorem null_on_invalid (pinned : Bool) (s : Ledger) (bytes : Bytes)
    (h : ¬ ∃ b, decodeBundle bytes = .ok b ∧ b.isValid = true) :
    ∃ s', step pinned s (.fromCbor bytes) = (s', .null) ∧ s'.live = s.live ∧ s'.objs.length = s.objs.length := by
  simp only [step]
  split
  · split
    next b hd hv => exact absurd ⟨b, hd, hv⟩ h
    next => exact ⟨s, rfl, rfl, rfl⟩
  · exact ⟨s, rfl, rfl, rfl⟩

/-- **C14 (agreement with the Rust API).** For a valid bundle the handle's queries return what
    the library functions return on the decoded bundle. -/
theorem from_cbor_valid (pinned : Bool) (s : Ledger) (bytes : Bytes) (b : Bundle)
    (hd : decodeBundle bytes = .ok b) (hv : b.isValid = true) :
    (step pinned s (.fromCbor bytes)).2 = .handle s.nextHandle ∧
    lookup s.nextHandle (step pinned s (.fromCbor bytes)).1.objs = lookup s.nextHandle (s.objs ++ [(s.nextHandle, Obj.bundle b (fresh s 1))]) := by
  simp [step, hd, hv, addObj]

/-- **C14 (metadata, fix F13).** The metadata query on a live bundle handle answers with the
    printed source and destination, the creation timestamp and the lifetime of that bundle —
    exactly when both strings can be C strings (no NUL byte); otherwise it answers null, allocates
    nothing and aborts nothing.  (On the pinned tree `CString::new(..).unwrap()` aborted the
    process for a valid decoded bundle whose source is e.g. `dtn://a\0b/x`.) -/
theorem metadata_spec (pinned : Bool) (s : Ledger) (h : Nat) (b : Bundle) (a : List Nat)
    (hl : lookup h s.objs = some (.bundle b a)) :
    (cStringOk (printEid b.primary.src) = true ∧ cStringOk (printEid b.primary.dst) = true →
      (step pinned s (.getMetadata h)).2 =
        .mdata s.nextHandle (printEid b.primary.src) (printEid b.primary.dst) b.primary.ts b.primary.seq b.primary.lifetime) ∧
    (¬ (cStringOk (printEid b.primary.src) = true ∧ cStringOk (printEid b.primary.dst) = true) →
      step pinned s (.getMetadata h) = (s, .null)) := by
  constructor
  · rintro ⟨h1, h2⟩; simp [step, hl, h1, h2, addObj]
  · intro hn
    simp only [step, hl, Bool.and_eq_true, if_neg hn]

/-- a source with a NUL byte: the query answers null (non-vacuity of the second clause) -/
example : (match (step false (addObj init (Obj.bundle
    { primary := { version := 7, flags := 0, crc := .no, dst := .dtn 1 [47, 47, 97, 47], src := .dtn 1 [47, 47, 97, 0, 98, 47],
                   rpt := .null 1 0, ts := 5, seq := 0, lifetime := 0, fragOff := 0, total := 0 },
      canon := [] }) 1).1 (.getMetadata 0)).2 with | .null => true | _ => false) = true := by decide +kernel

structure Inv (s : Ledger) : Prop where
  idsBounded : ∀ p ∈ s.objs, p.1 < s.nextHandle ∧ ∀ i ∈ p.2.allocs, i < s.nextId
  distinct : s.objs.Pairwise (fun a b => a.1 ≠ b.1 ∧ ∀ i ∈ a.2.allocs, i ∉ b.2.allocs)
  ledger : ∀ i, i ∈ s.live ↔ ∃ p ∈ s.objs, i ∈ p.2.allocs

theorem inv_init : Inv init := ⟨by simp [init], by simp [init], by simp [init]⟩

theorem mem_fresh (s : Ledger) (n i : Nat) : i ∈ fresh s n ↔ s.nextId ≤ i ∧ i < s.nextId + n := by
  simp only [fresh, List.mem_map, List.mem_range]
  exact ⟨by rintro ⟨a, ha, rfl⟩; omega, fun h => ⟨i - s.nextId, by omega, by omega⟩⟩

theorem inv_addObj (s : Ledger) (mk : List Nat → Obj) (n : Nat) (hmk : ∀ ids, (mk ids).allocs = ids)
    (h : Inv s) : Inv (addObj s mk n).1 := by
  obtain ⟨hb, hd, hl⟩ := h
  unfold addObj
  refine ⟨fun p hp => ?_, ?_, fun i => ?_⟩
  · rcases List.mem_append.mp hp with hp | hp
    · exact ⟨Nat.lt_succ_of_lt (hb p hp).1, fun i hi => Nat.lt_add_right n ((hb p hp).2 i hi)⟩
    · obtain rfl := List.mem_singleton.mp hp
      exact ⟨Nat.lt_succ_self _, fun i hi => ((mem_fresh s n i).mp (hmk _ ▸ hi :)).2⟩
  · -- the new handle and the new ids lie above everything in the table
    refine List.pairwise_append.mpr ⟨hd, List.pairwise_singleton _ _, fun p hp q hq => ?_⟩
    obtain rfl := List.mem_singleton.mp hq
    refine ⟨Nat.ne_of_lt (hb p hp).1, fun i hi hf => ?_⟩
    have := (hb p hp).2 i hi
    have := ((mem_fresh s n i).mp (hmk _ ▸ hf :)).1
    omega
  · simp [hl i, or_and_right, exists_or, hmk]

/-- the table is the entry found and what `remove` leaves, in some order -/
theorem lookup_perm {h : Nat} {l : List (Nat × Obj)} {o : Obj} (hl : lookup h l = some o) :
    l.Perm ((h, o) :: remove h l) := by
  fun_induction lookup h l with
  | case1 => cases hl
  | case2 v r =>
    cases hl
    rw [remove, if_pos rfl]
  | case3 k v r hk ih =>
    rw [remove, if_neg hk]
    exact ((ih hl).cons _).trans (.swap ..)

theorem lookup_mem {h : Nat} {l : List (Nat × Obj)} {o : Obj} (hl : lookup h l = some o) : (h, o) ∈ l :=
  (lookup_perm hl).mem_iff.mpr List.mem_cons_self

/-- the invariant reads the table as a set of objects: their order does not matter -/
theorem Inv.perm {s : Ledger} {l : List (Nat × Obj)} (hi : Inv s) (hp : s.objs.Perm l) : Inv { s with objs := l } where
  idsBounded p hpl := hi.idsBounded p (hp.mem_iff.mpr hpl)
  distinct := hp.pairwise hi.distinct fun hxy => ⟨hxy.1.symm, fun i hi hj => hxy.2 i hj hi⟩
  ledger i := by simp only [hi.ledger i, hp.mem_iff]

theorem inv_release (s : Ledger) (h : Nat) (o : Obj) (hl : lookup h s.objs = some o) (hi : Inv s) :
    Inv (release s h o.allocs) := by
  -- with the object found at the front of the table, the rest of the table is what `release` keeps
  obtain ⟨hb, hd, hled⟩ := hi.perm (lookup_perm hl)
  rw [List.pairwise_cons] at hd
  refine ⟨fun p hp => hb p (List.mem_cons_of_mem _ hp), hd.2, fun i => ?_⟩
  simp only [release, List.mem_filter, Bool.not_eq_true', List.contains_eq_mem, decide_eq_false_iff_not, hled i,
    List.mem_cons]
  constructor
  · rintro ⟨⟨p, rfl | hp, hpi⟩, hio⟩
    · exact absurd hpi hio
    · exact ⟨p, hp, hpi⟩
  · rintro ⟨p, hp, hpi⟩
    exact ⟨⟨p, .inr hp, hpi⟩, fun hio => (hd.1 p hp).2 i hio hpi⟩

theorem Inv.map_objs {s : Ledger} (f : Nat × Obj → Nat × Obj) (hi : Inv s)
    (hf : ∀ p ∈ s.objs, (f p).1 = p.1 ∧ (f p).2.allocs = p.2.allocs) :
    Inv { s with objs := s.objs.map f } where
  idsBounded q hq := by
    obtain ⟨p, hp, rfl⟩ := List.mem_map.mp hq
    rw [(hf p hp).1, (hf p hp).2]
    exact hi.idsBounded p hp
  distinct := List.pairwise_map.mpr <| hi.distinct.imp_of_mem fun hx hy hxy => by
    rw [(hf _ hx).1, (hf _ hx).2, (hf _ hy).1, (hf _ hy).2]
    exact hxy
  ledger i := (hi.ledger i).trans
    ⟨fun ⟨p, hp, hpi⟩ => ⟨f p, List.mem_map_of_mem hp, (hf p hp).2 ▸ hpi⟩, fun ⟨q, hq, hqi⟩ => by
      obtain ⟨p, hp, rfl⟩ := List.mem_map.mp hq
      exact ⟨p, hp, (hf p hp).2 ▸ hqi⟩⟩

/-- `to_cbor(&mut self)` rewrites the bundle value behind the handle; the invariant sees only
    handles and allocations (`Inv.map_objs`) -/
theorem inv_setBundle (s : Ledger) (h : Nat) (b' : Bundle) (a : List Nat) (b : Bundle)
    (hl : lookup h s.objs = some (.bundle b a)) (hi : Inv s) :
    Inv { s with objs := s.objs.map (fun (k, o) => if k = h then (k, Obj.bundle b' a) else (k, o)) } := by
  have hperm := lookup_perm hl
  have hd := (hi.perm hperm).distinct
  rw [List.pairwise_cons] at hd
  refine hi.map_objs _ fun p hp => ?_
  by_cases hk : p.1 = h
  · -- only the entry found carries the handle `h`, and its allocations are `a`
    rcases List.mem_cons.mp (hperm.mem_iff.mp hp) with rfl | hp
    · simp [Obj.allocs]
    · exact absurd hk.symm (hd.1 p hp).1
  · simp [hk]

theorem inv_step (s : Ledger) (c : Call) (hi : Inv s) : Inv (step false s c).1 := by
  cases c with
  | working | bufferFreeNull | bundleFreeNull => exact hi
  | bufferTest | rndBundle _ | newBundle _ | payloadNull => exact inv_addObj s _ _ (fun _ => rfl) hi
  | isValid _ => simp only [step]; split <;> exact hi
  | fromCbor _ | getMetadata _ =>
    simp only [step]
    split
    · split
      · exact inv_addObj s _ _ (fun _ => rfl) hi
      · exact hi
    · exact hi
  | payload _ =>
    simp only [step, newBuffer]
    split
    · split <;> exact inv_addObj s _ _ (fun _ => rfl) hi
    · exact hi
  | toCbor h =>
    simp only [step, newBuffer]
    split
    next hl => exact inv_addObj _ _ _ (fun _ => rfl) (inv_setBundle s h _ _ _ hl hi)
    next => exact hi
  | bufferFree h | bundleFree h | metadataFree h =>
    simp only [step, Bool.false_eq_true, if_false]
    split
    next hl => exact inv_release s h _ hl hi
    next => exact hi

theorem inv_run (cs : List Call) (s : Ledger) (hi : Inv s) : Inv (run false cs s).1 := by
  induction cs generalizing s with
  | nil => exact hi
  | cons c cs ih => simp only [run]; exact ih _ (inv_step s c hi)

/-- **C14 (ledger).** After ANY sequence of FFI calls starting from a fresh process state, once
    every handle that was handed out has been released with its documented free function (no
    object left in the table), no allocation made by the library remains live. -/
theorem ffi_ledger_balanced (cs : List Call) (h : (run false cs init).1.objs = []) :
    (run false cs init).1.live = [] := by
  have hi := inv_run cs init inv_init
  apply List.eq_nil_iff_forall_not_mem.mpr
  intro i hmem
  obtain ⟨p, hp, _⟩ := (hi.ledger i).mp hmem
  rw [h] at hp
  simp at hp

/-! ### the pinned frees leak (F9 witness), and a full protocol on the fixed code does not -/

def sampleBundle : Bundle :=
  { primary := { version := 7, flags := 0, crc := .no, dst := .dtn 1 [47, 47, 97, 47], src := .null 1 0,
                 rpt := .null 1 0, ts := 5, seq := 0, lifetime := 0, fragOff := 0, total := 0 },
    canon := [ { btype := 1, num := 1, flags := 0, crc := .no, data := .data [0x41] } ] }

def protocol : List Call :=
  [.bufferTest, .newBundle sampleBundle, .toCbor 1, .getMetadata 1, .payload 1, .isValid 1,
   .bufferFree 0, .bufferFree 2, .metadataFree 3, .bufferFree 4, .bundleFree 1]

example : (run false protocol init).1.objs.length = 0 ∧ (run false protocol init).1.live = [] := by
  decide +kernel
/-- the null-pointer corner of the protocol: `bundle_payload(NULL)` hands out a Buffer with null data
    that `buffer_free` releases completely; freeing NULL is a no-op -/
theorem null_payload_balanced :
    (run false [.payloadNull, .bufferFreeNull, .bundleFreeNull, .bufferFree 0] init).1.live = [] := by decide

/-- on the pinned tree the same protocol leaves 4 allocations live (3 buffer data, 1 metadata struct) -/
theorem pinned_leaks : (run true protocol init).1.objs.length = 0 ∧ (run true protocol init).1.live.length = 4 := by
  decide +kernel

end Bp7.C14
