/-
  C03, other conformant spellings: semantic tags in front of a bundle.

  RFC 8949 lets any data item be wrapped in tags; serde_cbor (built without its `tags` feature,
  as this crate does) skips them, each at the price of one level of its recursion budget.  A peer
  that prefixes the bundle with the self-described-CBOR tag 55799 (`d9 d9 f7`) — or with any other
  tags — is therefore understood.
-/
import Bp7.Props.C19
namespace Bp7.C03
open Bp7 Bp7.C19

def tagBytes (ts : List Nat) : Bytes := (ts.map (encHead 6)).flatten

/-- **C03 (tagged bundles).** Every conformant bundle prefixed with up to 123 semantic tags of any
    numbers decodes to exactly the bundle the untagged bytes decode to. -/
theorem accepted_tagged (b : Bundle) (h : Conformant b) (ts : List Nat)
    (hts : ∀ t ∈ ts, t < 18446744073709551616) (hn : ts.length ≤ 123) :
    decodeBundle (tagBytes ts ++ wire b) = .ok b :=
  -- the decoder starts with 128 levels, of which the blocks need 5, and with fuel for 129 tags
  fromSlice_enc readBundle _ b
    (parseWith_tags _ (wire b) b 5 (by omega) (parse_wire b h.toWire) ts hts 129 128 (by omega) (by omega))

/-- the self-described-CBOR tag 55799 is `d9 d9 f7` -/
example : tagBytes [55799] = [0xd9, 0xd9, 0xf7] := by decide

end Bp7.C03
