/-
  C12 — administrative records round-trip; status reports describe the right bundle.
-/
import Bp7.Model.Admin
import Bp7.Lemmas.Codec
import Bp7.Lemmas.SpecEq
import Bp7.Spec.Admin

namespace Bp7.C12
open Bp7

/-- normal form of a status item: a time is present only on asserted, time-reporting items -/
def itemNormal (i : StatusItem) : Bool :=
  decide (i.time < U64) && (!i.statusRequested || i.asserted) && (i.statusRequested || i.time == 0)

/-- normal form of a record: items normal; fragment offset only with a non-zero fragment length;
    canonical source EID; integer widths; unknown records have a type code other than 1 -/
def normal : AdminRecord → Bool
  | .report r => r.items.all itemNormal && decide (r.items.length < U64) && decide (r.reason < U32) && r.source.wf
      && decide (r.ts < U64) && decide (r.seq < U64) && decide (r.fragOff < U64) && decide (r.fragLen < U64)
      && (r.fragLen != 0 || r.fragOff == 0)
  | .unknown code data => code != 1 && decide (code < U32) && decide (data.length < U64)
  | .mismatched _ _ => false

theorem itemNormal_iff (i : StatusItem) :
    itemNormal i = true ↔ i.time < 18446744073709551616 ∧ (i.statusRequested = true → i.asserted = true) ∧
      (i.statusRequested = false → i.time = 0) := by
  simp only [itemNormal, Bool.and_eq_true, Bool.or_eq_true, Bool.not_eq_true', beq_iff_eq, decide_eq_true_eq, and_assoc]
  rw [U64_eq]
  cases i.statusRequested <;> simp

theorem normal_report (r : StatusReport) :
    normal (.report r) = true ↔ (∀ i ∈ r.items, itemNormal i = true) ∧ r.items.length < 18446744073709551616 ∧
      r.reason < 4294967296 ∧ r.source.wf = true ∧ r.ts < 18446744073709551616 ∧ r.seq < 18446744073709551616 ∧
      r.fragOff < 18446744073709551616 ∧ r.fragLen < 18446744073709551616 ∧ (r.fragLen = 0 → r.fragOff = 0) := by
  simp only [normal, Bool.and_eq_true, List.all_eq_true, Bool.or_eq_true, bne_iff_ne, ne_eq, beq_iff_eq, decide_eq_true_eq,
    and_assoc]
  rw [U64_eq, U32_eq, Decidable.imp_iff_not_or]

-- Where the depths come from: serde_cbor takes one level of its recursion budget on entering an array and gives up if
-- that was the last. A reader of arrays nested `k` deep therefore needs depth `k + 1`: 2 for a status item, 3 for the
-- item list (and for an endpoint ID), 4 for a report, 5 for a record; `from_slice` starts with 128.
theorem readItem_enc (i : StatusItem) (h : itemNormal i = true) (d : Nat) (hd : 2 ≤ d) (rest : Bytes) :
    readItem ⟨encItem i ++ rest, d⟩ = (.ok i, ⟨rest, d⟩) := by
  obtain ⟨ht, ha, h0⟩ := (itemNormal_iff i).1 h
  obtain ⟨a, t, r⟩ := i
  cases r
  · -- no time on the wire, and none in the item
    obtain rfl : t = 0 := h0 rfl
    rw [readItem, encItem, Bool.and_false, if_neg Bool.false_ne_true, List.append_assoc]
    refine readSeq_ok visitItem 1 (by omega) _ rest d (by omega) _ ?_
    simp only [visitItem, bind_apply, pure_apply, reqElem_succ, readBool_enc]
    rfl
  · obtain rfl : a = true := ha rfl
    rw [readItem, encItem, Bool.and_self, if_pos rfl, List.append_assoc, List.append_assoc]
    refine readSeq_ok visitItem 2 (by omega) _ rest d (by omega) _ ?_
    simp only [visitItem, bind_apply, pure_apply, reqElem_succ, readBool_enc, readU64_enc t ht, if_true]

theorem encItem_ne_nil (i : StatusItem) : encItem i ≠ [] := by
  unfold encItem
  split <;> simp [encArrayHead_small]

theorem readItems_enc (is : List StatusItem) (hn : ∀ i ∈ is, itemNormal i = true) (hl : is.length < 18446744073709551616)
    (d : Nat) (hd : 3 ≤ d) (rest : Bytes) :
    readItems ⟨encArrayHead is.length ++ ((is.map encItem).flatten ++ rest), d⟩ = (.ok is, ⟨rest, d⟩) :=
  readSeq_collect readItem encItem is hl d (by omega) (fun i hi => readItem_enc i (hn i hi) (d - 1) (by omega))
    (fun i _ => encItem_ne_nil i) rest

theorem readReport_enc (r : StatusReport) (h : normal (.report r) = true) (d : Nat) (hd : 4 ≤ d) (rest : Bytes) :
    readReport ⟨encReport r ++ rest, d⟩ = (.ok r, ⟨rest, d⟩) := by
  obtain ⟨hi, hil, hr, hs, hts, hsq, hfo, hfl, hfrag⟩ := (normal_report r).1 h
  have hitems := readItems_enc r.items hi hil (d - 1) (by omega)
  have hpair := readPairU64_enc r.ts r.seq hts hsq (d - 1) (by omega)
  simp only [List.append_assoc] at hpair
  -- the first four items are read alike whether or not the fragment pair follows: count the array as `k + 4`
  rw [readReport, encReport, show (if r.fragLen ≠ 0 then 6 else 4) = (if r.fragLen ≠ 0 then 2 else 0) + 4 by split <;> rfl]
  simp only [List.append_assoc]
  refine readSeq_ok visitReport _ (by split <;> omega) _ rest d (by omega) r ?_
  simp only [visitReport, bind_apply, pure_apply, reqElem_succ, hitems, readU32_enc r.reason hr,
    readEid_enc r.source hs (d - 1) (by omega), hpair]
  by_cases hz : r.fragLen = 0
  · simp only [hz, ne_eq, not_true, if_false, List.nil_append]
    rw [if_neg (by decide), pure_apply]
    obtain ⟨_, _, _, _, _, fragOff, fragLen⟩ := r
    obtain rfl : fragLen = 0 := hz
    obtain rfl : fragOff = 0 := hfrag rfl
    rfl
  · simp only [hz, ne_eq, not_false_eq_true, if_true, List.append_assoc, bind_apply, pure_apply, reqElem_succ,
      readU64_enc r.fragOff hfo, readU64_enc r.fragLen hfl]

theorem readAdmin_enc (r : AdminRecord) (h : normal r = true) (d : Nat) (hd : 5 ≤ d) (rest : Bytes) :
    readAdmin ⟨encAdmin r ++ rest, d⟩ = (.ok r, ⟨rest, d⟩) := by
  rw [readAdmin, encAdmin.eq_def]
  cases r with
  | report sr =>
    simp only [List.append_assoc]
    refine readSeq_ok visitAdmin 2 (by omega) _ rest d (by omega) _ ?_
    simp only [visitAdmin, bind_apply, pure_apply, reqElem_succ, readU32_enc 1 (by omega), if_true,
      readReport_enc sr h (d - 1) (by omega)]
  | unknown code data =>
    simp only [normal, Bool.and_eq_true, bne_iff_ne, ne_eq, decide_eq_true_eq] at h
    obtain ⟨⟨hne, hc⟩, hl⟩ := h
    simp only [List.append_assoc]
    refine readSeq_ok visitAdmin 2 (by omega) _ rest d (by omega) _ ?_
    simp only [visitAdmin, bind_apply, pure_apply, reqElem_succ, readU32_enc code hc, if_neg hne,
      readByteBuf_enc data hl]
  | mismatched code data => exact absurd h nofun

/-- **C12 (round trip).** Every administrative record in normal form decodes from its CBOR
    encoding to an equal record. -/
theorem admin_roundtrip (r : AdminRecord) (h : normal r = true) : decodeAdmin (encAdmin r) = .ok r :=
  fromSlice_enc readAdmin _ r (readAdmin_enc r h 128 (by omega))

/-! **C12 (layout).** The encoding is the RFC 9171 §6.1 layout: `[record type code, content]`; a
  status report is `[status items, reason, source EID, creation timestamp (, offset, length)]`,
  each status item `[asserted (, time)]`. Stated against the independent item-tree encoder.

  Two encoders are called `encItem`: the plain name is the model's writer of a status item, `Spec.encItem` the
  reference encoder of item trees. -/

theorem encBool_eq (b : Bool) : encBool b = Spec.encItem (.simple (if b then 21 else 20)) := by
  cases b <;> rfl

theorem encItem_eq (i : StatusItem) (h : itemNormal i = true) : encItem i = Spec.encItem (Spec.itemItem i) := by
  have ht := ((itemNormal_iff i).1 h).1
  unfold Bp7.encItem Spec.itemItem
  split <;>
    simp only [Spec.encItem_arr, Spec.encItems_cons, Spec.encItems_nil, List.length_cons, List.length_nil, Nat.reduceAdd,
      encArrayHead_eq 1 (by omega), encArrayHead_eq 2 (by omega), encBool_eq, encUint_eq i.time ht, List.append_assoc,
      List.append_nil]

theorem report_eq_spec (r : StatusReport) (h : normal (.report r) = true) :
    encReport r = Spec.encItem (Spec.reportItem r) := by
  obtain ⟨hi, hil, hr, hs, hts, hsq, hfo, hfl, _⟩ := (normal_report r).1 h
  simp only [encReport, Spec.reportItem, Spec.encItem_arr, encItems_append, Spec.encItems_cons, Spec.encItems_nil, List.length_append,
    List.length_cons, List.length_nil, List.length_map, Nat.reduceAdd, List.append_assoc, List.append_nil,
    encItems_map r.items Bp7.encItem Spec.itemItem fun i hi' => C12.encItem_eq i (hi i hi'), encArrayHead_eq _ hil,
    encArrayHead_eq 2 (by omega), encUint_eq r.reason (by omega), encEid_eq r.source hs,
    encUint_eq r.ts hts, encUint_eq r.seq hsq, encUint_eq r.fragOff hfo, encUint_eq r.fragLen hfl]
  split <;>
    simp only [Spec.encItems_cons, Spec.encItems_nil, List.length_cons, List.length_nil, Nat.reduceAdd, List.append_nil,
      encArrayHead_eq 4 (by omega), encArrayHead_eq 6 (by omega)]

theorem admin_eq_spec (sr : StatusReport) (h : normal (.report sr) = true) :
    encAdmin (.report sr) = Spec.encItem (.arr [.uint 1, Spec.reportItem sr]) :=
  encPair_eq 1 (by omega) _ _ (report_eq_spec sr h)

/-- **C12 (layout, records of unknown type).** `[record type code, content as a byte string]`. -/
theorem admin_unknown_eq_spec (c : Nat) (d : Bytes) (hc : c < U32) (hd : d.length < U64) :
    encAdmin (.unknown c d) = Spec.encItem (Spec.adminItem (.unknown c d)) :=
  encPair_eq c (by rw [U32_eq] at hc; omega) _ _ (encBytes_eq d hd)

/-- status item `i` of a report that asserts item `pos` at time `now` (the closure in
    `new_status_report`); `timed`: the bundle asks for status times -/
def statusItem (pos now : Nat) (timed : Bool) (i : Nat) : StatusItem :=
  if i = pos ∧ timed = true then { asserted := true, time := now, statusRequested := true }
  else if i = pos then { asserted := true, time := 0, statusRequested := false }
  else { asserted := false, time := 0, statusRequested := false }

theorem statusItem_asserted (pos now : Nat) (timed : Bool) (i : Nat) :
    (statusItem pos now timed i).asserted = decide (i = pos) := by
  unfold statusItem
  by_cases h : i = pos <;> cases timed <;> simp [h]

theorem statusItem_self (pos now : Nat) (timed : Bool) :
    statusItem pos now timed pos = { asserted := true, time := if timed then now else 0, statusRequested := timed } := by
  cases timed <;> simp [statusItem]

theorem statusItem_normal (pos now : Nat) (timed : Bool) (i : Nat) (hnow : now < U64) :
    itemNormal (statusItem pos now timed i) = true := by
  rw [U64_eq] at hnow
  unfold statusItem
  by_cases h : i = pos <;> cases timed <;> simp [h, itemNormal_iff, hnow]

theorem newStatusReport_eq (B : Bundle) (pos reason now : Nat) (hfrag : B.primary.isFragment = false) :
    newStatusReport B pos reason now = .ok
      { items := (List.range 4).map (statusItem pos now (has B.primary.flags F_STATUS_TIME)), reason := reason,
        source := B.primary.src, ts := B.primary.ts, seq := B.primary.seq, fragOff := 0, fragLen := 0 } := by
  rw [newStatusReport, hfrag, if_neg Bool.false_ne_true]
  rfl

theorem buildBundle_payload (p : Primary) (flags : Nat) (d : Bytes) :
    buildBundle p [newPayloadBlock flags d] = .ok { primary := p, canon := [newPayloadBlock flags d] } := rfl

theorem newStatusReportBundle_eq (B : Bundle) (src : Eid) (crcT pos reason now tsNow seqNow : Nat) (sr : StatusReport)
    (hsr : newStatusReport B pos reason now = .ok sr) (hrpt : B.primary.rpt ≠ Eid.dtnNone) :
    newStatusReportBundle B src crcT pos reason now tsNow seqNow = .ok (Bundle.setCrc
      { primary := { version := DTN_VERSION, flags := F_ADMIN, crc := .no, dst := B.primary.rpt, src := src, rpt := src,
                     ts := tsNow, seq := seqNow, lifetime := B.primary.lifetime, fragOff := 0, total := 0 },
        canon := [newPayloadBlock 0 (encAdmin (.report sr))] } crcT) := by
  rw [newStatusReportBundle, hsr, Res.bind_ok, if_neg hrpt]
  exact congrArg (Res.map _) (buildBundle_payload _ 0 _)

/-- **C12 (status-report bundles).** For a non-fragment bundle `B` with a non-null report-to
    endpoint, the generated report bundle is an administrative-record bundle addressed to `B`'s
    report-to endpoint, sourced from the reporting node, carrying `B`'s lifetime and the requested
    CRC type; its payload decodes to a status report that references `B`'s source and creation
    timestamp, asserts exactly status item `pos`, carries the status time iff `B` requested status
    times, and the requested reason code. -/
theorem status_bundle_spec (B : Bundle) (src : Eid) (crcT pos reason now tsNow seqNow : Nat)
    (hfrag : B.primary.isFragment = false) (hrpt : B.primary.rpt ≠ Eid.dtnNone) (hpos : pos < 4)
    (hsrc : B.primary.src.wf = true) (hts : B.primary.ts < U64) (hsq : B.primary.seq < U64)
    (hreason : reason < U32) (hnow : now < U64) :
    ∃ R sr, newStatusReportBundle B src crcT pos reason now tsNow seqNow = .ok R ∧
      R.isAdminRecord = true ∧ R.primary.dst = B.primary.rpt ∧ R.primary.src = src ∧ R.primary.rpt = src ∧
      R.primary.lifetime = B.primary.lifetime ∧ R.primary.ts = tsNow ∧ R.primary.seq = seqNow ∧
      R.primary.crc = CrcVal.ofType crcT ∧
      R.payload = some (encAdmin (.report sr)) ∧ decodeAdmin (encAdmin (.report sr)) = .ok (.report sr) ∧
      sr.source = B.primary.src ∧ sr.ts = B.primary.ts ∧ sr.seq = B.primary.seq ∧ sr.reason = reason ∧
      sr.items.length = 4 ∧
      (∀ i, i < 4 → (sr.items[i]?).map (·.asserted) = some (decide (i = pos))) ∧
      ((sr.items[pos]?).map (·.statusRequested) = some (has B.primary.flags F_STATUS_TIME)) ∧
      (has B.primary.flags F_STATUS_TIME = true → (sr.items[pos]?).map (·.time) = some now) ∧
      sr.refbundle = B.id := by
  have hitem : ∀ i, i < 4 → ((List.range 4).map (statusItem pos now (has B.primary.flags F_STATUS_TIME)))[i]?
      = some (statusItem pos now (has B.primary.flags F_STATUS_TIME) i) := fun i hi => by
    rw [List.getElem?_map, List.getElem?_range hi, Option.map_some]
  -- the bundle and the report are what the two builders' equations say; most claims then hold by `rfl`
  refine ⟨_, _,
    newStatusReportBundle_eq B src crcT pos reason now tsNow seqNow _ (newStatusReport_eq B pos reason now hfrag) hrpt,
    (by decide : has F_ADMIN F_ADMIN = true), rfl, rfl, rfl, rfl, rfl, rfl, rfl, rfl,
    admin_roundtrip _ ((normal_report _).2 ?_), rfl, rfl, rfl, rfl, rfl, fun i hi => ?_, ?_, fun ht => ?_, ?_⟩
  · have h0 : 0 < 18446744073709551616 := by decide
    refine ⟨fun i hi => ?_, by rw [List.length_map, List.length_range]; decide, hreason, hsrc, hts, hsq, h0, h0, fun _ => rfl⟩
    obtain ⟨k, _, rfl⟩ := List.mem_map.1 hi
    exact statusItem_normal pos now _ k hnow
  · rw [hitem i hi, Option.map_some, statusItem_asserted]
  · rw [hitem pos hpos, Option.map_some, statusItem_self]
  · rw [hitem pos hpos, Option.map_some, statusItem_self, ht, if_pos rfl]
  · rw [StatusReport.refbundle, Bundle.id, hfrag]
    rfl

end Bp7.C12
