/-
  The reflected bit-serial CRC of the model (Model/Crc.lean, the algorithm of the `crc` crate for
  refin = refout = true) computes the same function as the Rocksoft-model reference evaluated
  MSB-first with the catalogue parameters (Spec/Crc.lean): the reference register is the bit
  reversal of the model register after every step. The reference's `reflectBits` is `BitVec.reverse`
  (`reflectBits_eq`), and bit `i` of a reversed register is `getMsbD i` of the register
  (`testBit_reverse`), so the index arithmetic is that of core's `getMsbD_*` lemmas.
-/
import Bp7.Lemmas.CrcLinear
import Bp7.Spec.Crc
namespace Bp7.CrcAgreeProof
open Bp7 Bp7.Spec

theorem testBit_reflectBits : ∀ (k x i : Nat),
    (reflectBits k x).testBit i = (decide (i < k) && x.testBit (k - 1 - i))
  | 0, x, i => by simp [reflectBits]
  | k+1, x, i => by
    rw [reflectBits, Nat.testBit_or, Nat.testBit_shiftLeft, testBit_reflectBits k, Nat.testBit_div_two,
      ← Nat.pow_one 2, Nat.testBit_mod_two_pow]
    rcases Nat.lt_trichotomy i k with h | rfl | h
    · simp [h, Nat.not_le.2 h, Nat.lt_succ_of_lt h, show k - 1 - i + 1 = k - i by omega]
    · simp
    · simp [Nat.not_lt.2 (Nat.le_of_lt h), show ¬ i < k + 1 by omega, show ¬ i - k < 1 by omega]

theorem testBit_msbStep (p : CrcParams) (reg i : Nat) : (msbStep p reg).testBit i =
    ((decide (i < p.width) && (decide (1 ≤ i) && reg.testBit (i - 1))) ^^
      (reg.testBit (p.width - 1) && p.poly.testBit i)) := by
  have htop : reg.testBit (p.width - 1) = decide ((reg >>> (p.width - 1)) % 2 = 1) := by
    rw [Nat.testBit_eq_decide_div_mod_eq, Nat.shiftRight_eq_div_pow]
  rw [htop, msbStep]
  split <;> rename_i h <;> simp [h, Nat.testBit_mod_two_pow, Nat.testBit_shiftLeft]

variable {w : Nat}

theorem testBit_reverse (x : BitVec w) (i : Nat) : x.reverse.toNat.testBit i = x.getMsbD i := by
  rw [BitVec.testBit_toNat, BitVec.getLsbD_reverse]

/-- the reference's `reflectBits` is `BitVec.reverse` -/
theorem reflectBits_eq (k x : Nat) : reflectBits k x = (BitVec.ofNat k x).reverse.toNat := by
  apply Nat.eq_of_testBit_eq
  intro i
  rw [testBit_reflectBits, testBit_reverse, BitVec.getMsbD_eq_getLsbD, BitVec.getLsbD_ofNat]
  by_cases h : i < k
  · simp [show k - 1 - i < k by omega]
  · simp [h]

theorem msbStep_reverse (p : CrcParams) (polyM x : BitVec p.width) (hpoly : p.poly = polyM.reverse.toNat) :
    msbStep p x.reverse.toNat = (crcBit polyM x).reverse.toNat := by
  -- the bit the reference tests, the top one of the reversed register, is the one the model tests
  have htop : x.reverse.toNat.testBit (p.width - 1) = x.getLsbD 0 := by
    rw [BitVec.testBit_toNat, ← BitVec.msb_eq_getLsbD_last, BitVec.msb_reverse]
  apply Nat.eq_of_testBit_eq
  intro i
  rw [testBit_msbStep, hpoly, htop]
  simp only [testBit_reverse]
  unfold crcBit
  split <;> simp [BitVec.getMsbD_ushiftRight, Nat.one_le_iff_ne_zero, *]

theorem msbSteps_reverse (p : CrcParams) (polyM : BitVec p.width) (hpoly : p.poly = polyM.reverse.toNat) :
    ∀ (k : Nat) (x : BitVec p.width), msbSteps p k x.reverse.toNat = (crcBits polyM k x).reverse.toNat
  | 0, _ => rfl
  | k+1, x => by rw [msbSteps, msbStep_reverse p polyM x hpoly, msbSteps_reverse p polyM hpoly k, crcBits]

theorem reverse_xor (x y : BitVec w) : (x ^^^ y).reverse.toNat = x.reverse.toNat ^^^ y.reverse.toNat := by
  apply Nat.eq_of_testBit_eq
  intro i
  simp only [Nat.testBit_xor, testBit_reverse, BitVec.getMsbD_xor]

/-- the reference feeds a byte reflected and shifted to the top of the register: that is the bit
    reversal of the byte as the model feeds it, zero-extended at the bottom -/
theorem zext_reverse (hw : 8 ≤ w) (b : UInt8) : (zext w b).reverse.toNat = reflectBits 8 b.toNat <<< (w - 8) := by
  apply Nat.eq_of_testBit_eq
  intro i
  rw [reflectBits_eq, Nat.testBit_shiftLeft, testBit_reverse, testBit_reverse, zext, BitVec.getMsbD_setWidth,
    show i + 8 - w = i - (w - 8) by omega, ← UInt8.toNat_toBitVec, BitVec.ofNat_toNat, BitVec.setWidth_eq]

theorem feedByte_reverse (p : CrcParams) (hw : 8 ≤ p.width) (hrefin : p.refin = true) (polyM : BitVec p.width)
    (hpoly : p.poly = polyM.reverse.toNat) (x : BitVec p.width) (b : UInt8) :
    feedByte p x.reverse.toNat b = (crcByte polyM x b).reverse.toNat := by
  rw [feedByte, hrefin, if_pos rfl, ← zext_reverse hw, ← reverse_xor, msbSteps_reverse p polyM hpoly, crcByte_eq]

theorem reflectBits_reverse (x : BitVec w) : reflectBits w x.reverse.toNat = x.toNat := by
  rw [reflectBits_eq, BitVec.ofNat_toNat, BitVec.setWidth_eq, BitVec.reverse_reverse_eq]

/-- the reflected bit-serial CRC with polynomial, initial value and final xor `polyM`, `initM`, `xorM` is
    the Rocksoft-model CRC of the parameters whose polynomial and initial value are their bit reversals -/
theorem crc_agree (p : CrcParams) (hw : 8 ≤ p.width) (hrefin : p.refin = true) (hrefout : p.refout = true)
    (polyM initM xorM : BitVec p.width) (hpoly : p.poly = polyM.reverse.toNat)
    (hinit : p.init = initM.reverse.toNat) (hxor : p.xorout = xorM.toNat) (d : Bytes) :
    (crcFeed polyM initM d ^^^ xorM).toNat = Spec.crc p d := by
  have := List.foldl_hom (fun x : BitVec p.width => x.reverse.toNat) (g₁ := crcByte polyM) (g₂ := feedByte p)
    (l := d) (init := initM) (fun x b => feedByte_reverse p hw hrefin polyM hpoly x b)
  rw [Spec.crc, hrefout, if_pos rfl, hinit, this, reflectBits_reverse, hxor, BitVec.toNat_xor]
  rfl

theorem crc16_agree (d : Bytes) : (Bp7.crc16 d).toNat = Spec.crc16 d :=
  crc_agree CRC_16_IBM_SDLC (by decide) rfl rfl POLY16 0xFFFF#16 0xFFFF#16 (by decide +kernel) (by decide +kernel) rfl d

theorem crc32c_agree (d : Bytes) : (Bp7.crc32c d).toNat = Spec.crc32c d :=
  crc_agree CRC_32_ISCSI (by decide) rfl rfl POLY32 0xFFFFFFFF#32 0xFFFFFFFF#32 (by decide +kernel) (by decide +kernel) rfl d

end Bp7.CrcAgreeProof
