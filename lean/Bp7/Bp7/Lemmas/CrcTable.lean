/-
  The `crc` crate's table-driven algorithm (Model/CrcTable.lean) computes the same function as
  the bit-serial reflected model (Model/Crc.lean) that all CRC theorems (C02, C04, C05) are about.
-/
import Bp7.Model.CrcTable
import Bp7.Lemmas.CrcLinear
namespace Bp7.CrcCrate

variable {w : Nat}

theorem utilStep_eq (poly v : BitVec w) : utilStep poly v = crcBit poly v := by
  unfold utilStep crcBit
  rw [BitVec.and_one_eq_setWidth_ofBool_getLsbD]
  cases v.getLsbD 0 <;> simp [BitVec.setWidth_ofNat_one_eq_ofNat_one_of_lt]

theorem utilCrc_eq (poly v : BitVec w) : utilCrc poly v = crcBits poly 8 v := by
  simp [utilCrc, utilStep_eq, crcBits]

theorem getLsbD_ff (i : Nat) : (0xFF#w).getLsbD i = (decide (i < w) && decide (i < 8)) := by
  rw [BitVec.getLsbD_ofNat, show 0xFF = 2 ^ 8 - 1 from rfl, Nat.testBit_two_pow_sub_one]

theorem crcBits_shift (poly : BitVec w) : ∀ (k : Nat) (h : BitVec w), (∀ i, i < k → h.getLsbD i = false) →
    crcBits poly k h = h >>> k
  | 0, h, _ => by simp [crcBits]
  | k+1, h, hz => by
    rw [crcBits, crcBit, if_neg (by simp [hz 0]), crcBits_shift poly k (h >>> 1) (by
      intro i hi; rw [BitVec.getLsbD_ushiftRight]; exact hz (1 + i) (by omega)),
      show k + 1 = 1 + k by omega, BitVec.shiftRight_add]

/-- eight steps on any value = eight steps on its low byte, xor the rest shifted down -/
theorem crcBits8_split (poly x : BitVec w) :
    crcBits poly 8 x = crcBits poly 8 (x &&& 0xFF#w) ^^^ (x >>> 8) := by
  have hx : x = (x &&& 0xFF#w) ^^^ (x &&& ~~~0xFF#w) := by
    ext i hi; simp; cases x[i] <;> simp
  have hz : ∀ i, i < 8 → (x &&& ~~~0xFF#w).getLsbD i = false := by
    intro i hi
    simp [getLsbD_ff, hi]
  have hsh : (x &&& ~~~0xFF#w) >>> 8 = x >>> 8 := by
    apply BitVec.eq_of_getLsbD_eq
    intro i hi
    simpa [getLsbD_ff] using BitVec.lt_of_getLsbD
  conv => lhs; rw [hx]
  rw [crcBits_xor, crcBits_shift poly 8 _ hz, hsh]

theorem tableIndex_lt (crc : BitVec w) (b : UInt8) : tableIndex crc b < 256 := by
  rw [tableIndex, BitVec.toNat_and, BitVec.toNat_ofNat]
  exact Nat.lt_succ_of_le (Nat.le_trans Nat.and_le_right (Nat.mod_le _ _))

theorem table_getD (poly : BitVec w) (y : BitVec w) (hy : y.toNat < 256) :
    (table poly).getD y.toNat 0#w = crcBits (reflectPoly poly) 8 y := by
  rw [table, Array.getD_eq_getD_getElem?, Array.getElem?_ofFn]
  simp [hy, utilCrc_eq]

theorem updateByte_eq (poly : BitVec w) : updateByte (table poly) = crcByte (reflectPoly poly) := by
  funext crc b
  have hb : zext w b >>> 8 = 0#w := by
    apply BitVec.eq_of_toNat_eq
    rw [BitVec.toNat_ushiftRight, zext, BitVec.toNat_setWidth, Nat.shiftRight_eq_div_pow]
    exact Nat.div_eq_of_lt (Nat.lt_of_le_of_lt (Nat.mod_le _ _) b.toNat_lt)
  rw [updateByte, tableIndex, table_getD poly _ (tableIndex_lt crc b), crcByte_eq, crcBits8_split _ (crc ^^^ zext w b),
    BitVec.ushiftRight_xor_distrib, hb, BitVec.xor_zero]
  rfl

theorem updateTable_eq (poly : BitVec w) (bytes : Bytes) (crc : BitVec w) :
    updateTable (table poly) crc bytes = crcFeed (reflectPoly poly) crc bytes := by
  rw [updateTable, updateByte_eq, crcFeed]

/-- `Crc::checksum` of the crate, for any width and parameters with refin = refout = true, is the
    bit-serial reflected CRC with the reversed polynomial -/
theorem checksum_eq (poly initial xorout : BitVec w) (d : Bytes) :
    checksum poly initial xorout d = crcFeed (reflectPoly poly) (init initial) d ^^^ xorout := by
  rw [checksum, finalize, updateTable_eq]

end Bp7.CrcCrate
