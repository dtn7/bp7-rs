/-
  `calculate_crc` and `check_crc` (src/crc.rs; `calcCrc`, `checkCrcVal` of Model/Codec.lean). What `calculate_crc`
  stores depends on the block only through the stored CRC value and the bytes the block encodes to once that
  value is reset (`CrcVal.calculate`), so the facts here are about CRC values and byte strings, whatever the kind
  of block. Where the block itself comes in, it is as the function `f` from the stored value to the encoding.
  A whole bundle with new CRC values and nothing else changed is `mapCrc`.
-/
import Bp7.Lemmas.Codec
import Bp7.Model.Mutate
namespace Bp7

namespace CrcVal

/-- what `calculate_crc` puts in the place of the stored value `c` of a block that, with its CRC bytes
    zeroed, encodes to `d`: 1 = CRC-16/X.25, 2 = CRC-32C, big-endian -/
def calculate (c : CrcVal) (d : Bytes) : CrcVal :=
  if c.toCode = 0 then .no
  else if c.toCode = 1 then be16 (crc16 d)
  else if c.toCode = 2 then be32 (crc32c d)
  else c

end CrcVal

theorem calcCrc_eq {β} (enc : β → Bytes) (getc : β → CrcVal) (setc : β → CrcVal → β) (b : β) :
    calcCrc enc getc setc b = (getc b).calculate (enc (setc b (getc b).reset)) := rfl

theorem Primary.calcCrc_eq (p : Primary) : p.calcCrc = p.crc.calculate (encPrimary { p with crc := p.crc.reset }) := rfl
theorem Canon.calcCrc_eq (c : Canon) : c.calcCrc = c.crc.calculate (encCanon { c with crc := c.crc.reset }) := rfl

theorem be16_wire (x : BitVec 16) : (be16 x).wire = true := rfl
theorem be32_wire (x : BitVec 32) : (be32 x).wire = true := rfl

namespace CrcVal

theorem calculate_cases (c : CrcVal) (d : Bytes) :
    (c.toCode = 1 → c.calculate d = be16 (crc16 d)) ∧ (c.toCode = 2 → c.calculate d = be32 (crc32c d)) ∧
    (c.toCode = 0 → c.calculate d = .no) := by
  refine ⟨?_, ?_, ?_⟩ <;> intro h <;> simp [calculate, h]

/-- case principle for a fact about the computed value that does not depend on the checksum itself -/
theorem calculate_ind (c : CrcVal) (d : Bytes) (Q : CrcVal → Prop)
    (no : c.toCode = 0 → Q .no) (c16 : c.toCode = 1 → ∀ x, Q (be16 x))
    (c32 : c.toCode = 2 → ∀ x, Q (be32 x)) (other : 3 ≤ c.toCode → Q c) : Q (c.calculate d) :=
  iteInduction no fun _ => iteInduction (c16 · _) fun _ => iteInduction (c32 · _) fun _ => other (by omega)

theorem calculate_toCode (c : CrcVal) (d : Bytes) : (c.calculate d).toCode = c.toCode :=
  calculate_ind c d (·.toCode = _) Eq.symm (fun h _ => h.symm) (fun h _ => h.symm) fun _ => rfl

theorem calculate_wireX (c : CrcVal) (d : Bytes) (hk : c.knownX = true) : (c.calculate d).wireX = true :=
  calculate_ind c d (·.wireX = true) (fun _ => rfl) (fun _ _ => rfl) (fun _ _ => rfl) fun h => by
    cases c <;> simp_all [toCode, knownX, wireX]

theorem calculate_wire (c : CrcVal) (d : Bytes) (hk : c.known = true) : (c.calculate d).wire = true :=
  calculate_ind c d (·.wire = true) (fun _ => rfl) (fun _ => be16_wire) (fun _ => be32_wire) fun h => by
    have := toCode_le_of_known _ hk; omega

theorem calculate_known (c : CrcVal) (d : Bytes) (hk : c.known = true) : (c.calculate d).known = true :=
  known_of_wire _ (calculate_wire c d hk)

/-- `calculate_crc` resets the stored value anyway -/
theorem calculate_of_reset (f : CrcVal → Bytes) (c : CrcVal) :
    c.reset.calculate (f c.reset.reset) = c.calculate (f c.reset) := by
  cases c <;> rfl

theorem calculate_unknown (k : Nat) (d : Bytes) (hk : (unknown k).knownX = true) : (unknown k).calculate d = unknown k := by
  have : 3 ≤ k := by simp [knownX] at hk; exact hk.1
  rw [calculate, toCode, if_neg (by omega), if_neg (by omega), if_neg (by omega)]

theorem reset_calculate (c : CrcVal) (d : Bytes) (hk : c.knownX = true) : (c.calculate d).reset = c.reset := by
  cases c
  case unknown k => rw [calculate_unknown k d hk]
  all_goals rfl

theorem calculate_calculate (c : CrcVal) (d d' : Bytes) (hk : c.knownX = true) :
    (c.calculate d).calculate d' = c.calculate d' := by
  cases c
  case unknown k => rw [calculate_unknown k d hk]
  all_goals rfl

theorem calculate_idem (f : CrcVal → Bytes) (c : CrcVal) (hk : c.knownX = true) (v : CrcVal)
    (hv : v = c.calculate (f c.reset)) : v.calculate (f v.reset) = v := by
  rw [hv, reset_calculate _ _ hk, calculate_calculate _ _ _ hk]

theorem calculate_of_no (c : CrcVal) (d : Bytes) (h : c = .no) : c.calculate d = c := h ▸ rfl

theorem ofType_toCode (c : CrcVal) (hk : c.known = true) : ofType c.toCode = c.reset := by
  cases c <;> first | rfl | exact absurd hk nofun

theorem toCode_ofType (t : Nat) : (ofType t).toCode = t :=
  iteInduction (motive := (toCode · = t)) Eq.symm fun _ => iteInduction (motive := (toCode · = t)) Eq.symm fun _ =>
    iteInduction (motive := (toCode · = t)) Eq.symm fun _ => rfl

theorem calculate_ofType (c : CrcVal) (d : Bytes) (hcode : c.toCode = 1 ∨ c.toCode = 2) :
    (ofType c.toCode).calculate d = c.calculate d := by
  rcases hcode with h | h <;> rw [h]
  · exact ((c.calculate_cases d).1 h).symm
  · exact ((c.calculate_cases d).2.1 h).symm

theorem reset_bytes (c : CrcVal) (t : Bytes) (h : c.bytes = some t) :
    c.reset.bytes = some (List.replicate t.length 0) := by
  cases c <;> simp [bytes] at h <;> subst h <;> rfl

theorem bytes_length (c : CrcVal) (t : Bytes) (h : c.bytes = some t) : t.length = 2 * c.toCode := by
  cases c <;> simp [bytes] at h <;> subst h <;> rfl

end CrcVal

/-- what `set_crc` and `to_cbor` do to the object: a new CRC value in the primary block and in
    every block, nothing else -/
def mapCrc (b : Bundle) (x : CrcVal) (g : Canon → CrcVal) : Bundle :=
  { primary := { b.primary with crc := x }, canon := b.canon.map fun c => { c with crc := g c } }

theorem mapCrc_congr (b : Bundle) {x x' : CrcVal} {g g' : Canon → CrcVal} (hx : x = x')
    (hg : ∀ c ∈ b.canon, g c = g' c) : mapCrc b x g = mapCrc b x' g' := by
  rw [mapCrc, hx, List.map_congr_left fun c hc => by rw [hg c hc]]
  rfl

theorem mapCrc_self (b : Bundle) : mapCrc b b.primary.crc (·.crc) = b :=
  congrArg (Bundle.mk b.primary) (List.map_id b.canon)

theorem mapCrc_mapCrc (b : Bundle) (x x' : CrcVal) (g g' : Canon → CrcVal) :
    mapCrc (mapCrc b x g) x' g' = mapCrc b x' fun c => g' { c with crc := g c } := by
  simp only [mapCrc, List.map_map]
  rfl

theorem Bundle.calculateCrc_eq_mapCrc (b : Bundle) : b.calculateCrc = mapCrc b b.primary.calcCrc Canon.calcCrc := rfl

theorem toCbor_eq_mapCrc (b : Bundle) : (b.toCbor).1 = mapCrc b b.primary.calcCrc Canon.calcCrc := rfl

theorem setCrc_eq_mapCrc (b : Bundle) (t : Nat) :
    b.setCrc t = mapCrc b (CrcVal.ofType t) fun _ => CrcVal.ofType t := rfl

theorem payload_mapCrc (b : Bundle) (x : CrcVal) (g : Canon → CrcVal) :
    (mapCrc b x g).payload = b.payload ∧ (mapCrc b x g).canon.length = b.canon.length := by
  refine ⟨?_, List.length_map _⟩
  unfold Bundle.payload Bundle.blockByType mapCrc
  simp only [List.find?_map]
  have : ((fun c : Canon => c.btype == PAYLOAD_BLOCK && c.extOk) ∘ fun c : Canon => { c with crc := g c })
      = (fun c : Canon => c.btype == PAYLOAD_BLOCK && c.extOk) := rfl
  rw [this]
  cases List.find? (fun c : Canon => c.btype == PAYLOAD_BLOCK && c.extOk) b.canon <;> rfl

theorem Bundle.calculateCrc_of_no (b : Bundle) (hp : b.primary.crc = .no) (hc : ∀ c ∈ b.canon, c.crc = .no) :
    b.calculateCrc = b :=
  (mapCrc_congr b (b.primary.crc.calculate_of_no _ hp) fun c h => c.crc.calculate_of_no _ (hc c h)).trans (mapCrc_self b)

theorem Bundle.calculateCrc_wire (b : Bundle) (h : b.wfX = true) : b.calculateCrc.Wire := by
  have h := b.wfX_iff.1 h
  refine ⟨⟨h.1.1, CrcVal.calculate_wireX _ _ h.1.2⟩, fun c hc => ?_⟩
  obtain ⟨c0, hc0, rfl⟩ := List.mem_map.1 hc
  exact ⟨(h.2 c0 hc0).1, CrcVal.calculate_wireX _ _ (h.2 c0 hc0).2⟩

theorem checkCrcVal_iff (stored computed : CrcVal) (hno : stored ≠ .no) :
    checkCrcVal stored computed = true ↔ ∃ t, stored.bytes = some t ∧ computed.bytes = some t := by
  -- for the four kinds of value that have bytes `t`, the check is `computed.bytes == some t`
  have key : ∀ t, (computed.bytes == some t) = true ↔ ∃ t', some t = some t' ∧ computed.bytes = some t' :=
    fun t => ⟨fun h => ⟨t, rfl, eq_of_beq h⟩, fun ⟨_, h1, h2⟩ => beq_iff_eq.2 (h2.trans h1.symm)⟩
  cases stored
  case no => exact absurd rfl hno
  case unknown => exact ⟨nofun, nofun⟩
  all_goals exact key _

theorem bytes_eq_of_check (stored computed : CrcVal) (hok : checkCrcVal stored computed = true)
    (hno : stored ≠ .no) : computed.bytes = stored.bytes := by
  obtain ⟨t, hs, hc⟩ := (checkCrcVal_iff _ _ hno).1 hok
  exact hc.trans hs.symm

theorem checkCrcVal_self (c : CrcVal) (h : c.wire = true) : checkCrcVal c c = true := by
  cases c <;> simp_all [CrcVal.wire, checkCrcVal]

theorem check_updated (f : CrcVal → Bytes) (c : CrcVal) (hk : c.known = true) (v : CrcVal)
    (hv : v = c.calculate (f c.reset)) : checkCrcVal v (v.calculate (f v.reset)) = true := by
  rw [c.calculate_idem f (c.knownX_of_known hk) v hv, hv]
  exact checkCrcVal_self _ (c.calculate_wire _ hk)

end Bp7
