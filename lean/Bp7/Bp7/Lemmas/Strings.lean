/-
  Facts about the string helpers of Model/Eid.lean (decimal printing and parsing, splitting at a
  delimiter, `startsWith`, `trim`). Where core has the notion the helper is identified with it
  (`decStr` with `Nat.toDigits 10`, `splitOnByte` with `List.splitOn`, `startsWith` with `<+:`) and
  its facts come from core's.
-/
import Bp7.Model.Eid
namespace Bp7

theorem isDigit_iff {c : UInt8} : isDigit c = true ↔ 48 ≤ c.toNat ∧ c.toNat ≤ 57 := by
  simp [isDigit]

theorem decDigits_eq (fuel n : Nat) (ds : List Char) :
    decDigits fuel n (ds.map fun c => UInt8.ofNat c.toNat) =
      (Nat.toDigitsCore 10 fuel n ds).map fun c => UInt8.ofNat c.toNat := by
  induction fuel generalizing n ds with
  | zero => rfl
  | succ f ih =>
    rw [decDigits, Nat.toDigitsCore, ← Nat.toNat_digitChar_of_lt_ten (Nat.mod_lt n (by decide))]
    split
    · rfl
    · exact ih _ (_ :: ds)

/-- The model prints a number as core does, byte for character: what core proves of `Nat.toDigits`
    and `Nat.repr` applies (`Nat.toDigits_eq_if`, `Nat.length_toDigits_le_iff`, …). -/
theorem decStr_eq_toDigits (n : Nat) : decStr n = (Nat.toDigits 10 n).map fun c => UInt8.ofNat c.toNat :=
  decDigits_eq (n + 1) n []

theorem decStr_eq_asc (n : Nat) : decStr n = asc (toString n) := by
  rw [decStr_eq_toDigits, asc, Nat.toString_eq_repr, Nat.toList_repr]

theorem decStr_ne_nil (n : Nat) : decStr n ≠ [] := by
  simp [decStr_eq_toDigits]

/-- a decimal digit as a character and as a byte -/
theorem isDigit_ofChar {c : Char} (h : c.isDigit = true) :
    isDigit (UInt8.ofNat c.toNat) = true ∧ (UInt8.ofNat c.toNat).toNat = c.toNat := by
  have : 48 ≤ c.val.toNat ∧ c.val.toNat ≤ 57 := by simpa [Char.isDigit, UInt32.le_iff_toNat_le] using h
  rw [isDigit_iff, UInt8.toNat_ofNat', Char.toNat]
  omega

theorem decStr_digits (n : Nat) : ∀ c ∈ decStr n, isDigit c = true := by
  rw [decStr_eq_toDigits]
  intro c hc
  obtain ⟨ch, hch, rfl⟩ := List.mem_map.mp hc
  exact (isDigit_ofChar (Nat.isDigit_of_mem_toDigits (by decide) (by decide) hch)).1

theorem not_mem_decStr {c : UInt8} (h : isDigit c = false) (n : Nat) : c ∉ decStr n :=
  fun hc => absurd (decStr_digits n c hc) (by simp [h])

theorem digitsVal_append (a b : Bytes) (acc : Nat) : digitsVal (a ++ b) acc = digitsVal b (digitsVal a acc) := by
  induction a generalizing acc with
  | nil => rfl
  | cons x xs ih => exact ih _

/-- on digits `digitsVal` is core's `Nat.ofDigitChars 10` -/
theorem digitsVal_map (l : List Char) (h : ∀ c ∈ l, c.isDigit = true) (acc : Nat) :
    digitsVal (l.map fun c => UInt8.ofNat c.toNat) acc = Nat.ofDigitChars 10 l acc := by
  induction l generalizing acc with
  | nil => rfl
  | cons c cs ih =>
    rw [List.map_cons, digitsVal, Nat.ofDigitChars_cons, (isDigit_ofChar (h c List.mem_cons_self)).2,
      Nat.mul_comm, ih (fun c hc => h c (List.mem_cons_of_mem _ hc))]
    rfl

theorem digitsVal_decStr (n : Nat) : digitsVal (decStr n) 0 = n := by
  rw [decStr_eq_toDigits, digitsVal_map _ fun c => Nat.isDigit_of_mem_toDigits (by decide) (by decide),
    Nat.ofDigitChars_ten_toDigits]

theorem parseU64_of_digits {s : Bytes} (hne : s ≠ []) (hd : ∀ c ∈ s, isDigit c = true) :
    parseU64 s = if digitsVal s 0 < U64 then some (digitsVal s 0) else none := by
  obtain ⟨c, rest, rfl⟩ := List.exists_cons_of_ne_nil hne
  have h43 : c.toNat ≠ 43 := by
    have := isDigit_iff.mp (hd c List.mem_cons_self)
    omega
  simp [parseU64, h43, List.all_eq_true.mpr hd]

theorem parseU64_lt {s : Bytes} {v : Nat} (h : parseU64 s = some v) : v < U64 := by
  unfold parseU64 at h
  simp at h
  obtain ⟨_, _, hlt, hv⟩ := h
  omega

theorem startsWith_iff {p s : Bytes} : startsWith p s = true ↔ p <+: s := by
  rw [startsWith, beq_iff_eq, List.prefix_iff_eq_take, eq_comm]

theorem splitFirst_of_not_mem {d : UInt8} {s : Bytes} (h : d ∉ s) : splitFirst d s = none := by
  induction s with
  | nil => rfl
  | cons c cs ih =>
    rw [List.mem_cons, not_or] at h
    simp [splitFirst, Ne.symm h.1, ih h.2]

theorem splitFirst_append_cons {d : UInt8} {a : Bytes} (b : Bytes) (h : d ∉ a) :
    splitFirst d (a ++ d :: b) = some (a, b) := by
  induction a with
  | nil => simp [splitFirst]
  | cons c cs ih =>
    rw [List.mem_cons, not_or] at h
    simp [splitFirst, Ne.symm h.1, ih h.2]

/-- The model's splitter is core's `List.splitOn`, so core's lemmas apply (`List.splitOn_intercalate`,
    `List.intercalate_splitOn`, …). The two used most are restated for `splitOnByte` below: a core
    lemma about `splitOn` on bytes has to find `LawfulBEq UInt8` at every use, which is slow. -/
theorem splitOnByte_eq_splitOn (d : UInt8) (s : Bytes) : splitOnByte d s = s.splitOn d := by
  induction s with
  | nil => rfl
  | cons c cs ih =>
    rw [splitOnByte, List.splitOn_cons_eq_if_modifyHead, ih]
    -- the two differ on an empty list of parts only, and `splitOn` never returns one
    cases h : cs.splitOn d with
    | nil => exact absurd h (List.splitOn_ne_nil d cs)
    | cons x xs => simp only [beq_iff_eq, List.modifyHead_cons]

theorem splitOnByte_of_not_mem {d : UInt8} {s : Bytes} (h : d ∉ s) : splitOnByte d s = [s] := by
  rw [splitOnByte_eq_splitOn, List.splitOn_eq_singleton h]

theorem splitOnByte_append_cons {d : UInt8} {a : Bytes} (s : Bytes) (h : d ∉ a) :
    splitOnByte d (a ++ d :: s) = a :: splitOnByte d s := by
  rw [splitOnByte_eq_splitOn, splitOnByte_eq_splitOn, List.splitOn_append_cons_self_of_not_mem h]

theorem not_mem_of_mem_splitOnByte (d : UInt8) (s : Bytes) : ∀ p ∈ splitOnByte d s, d ∉ p := by
  induction s with
  | nil => simp [splitOnByte]
  | cons c cs ih =>
    rw [splitOnByte]
    split
    · simpa using ih
    · rename_i hc
      split
      · simpa using Ne.symm hc
      · rename_i hsp
        rw [hsp] at ih
        simpa [Ne.symm hc] using ih

theorem afterNth_append_cons {d : UInt8} {a : Bytes} (k : Nat) (s : Bytes) (h : d ∉ a) :
    afterNth d (k + 1) (a ++ d :: s) = afterNth d k s := by
  induction a with
  | nil => simp [afterNth]
  | cons c cs ih =>
    rw [List.mem_cons, not_or] at h
    simp [afterNth, Ne.symm h.1, ih h.2]

theorem wsPrefixLen_ascii {a : UInt8} (rest : Bytes) (h : 32 < a.toNat ∧ a.toNat < 128) :
    wsPrefixLen (a :: rest) = 0 := by
  have h1 : ¬((9 ≤ a.toNat ∧ a.toNat ≤ 13) ∨ a.toNat = 32) := by omega
  have h2 : a.toNat ≠ 0xC2 ∧ a.toNat ≠ 0xE1 ∧ a.toNat ≠ 0xE2 ∧ a.toNat ≠ 0xE3 := by omega
  simp only [wsPrefixLen, h1, h2, false_and, if_false]
  cases rest with
  | nil => rfl
  | cons b rest2 => cases rest2 <;> rfl

theorem wsSuffixLenRev_ascii {a : UInt8} (rest : Bytes) (h : 32 < a.toNat ∧ a.toNat < 128) :
    wsSuffixLenRev (a :: rest) = 0 := by
  have h1 : ¬((9 ≤ a.toNat ∧ a.toNat ≤ 13) ∨ a.toNat = 32) := by omega
  have h2 : ¬(a.toNat = 0x85 ∨ a.toNat = 0xA0) ∧ a.toNat ≠ 0x80 ∧ a.toNat ≠ 0x9F ∧
      ¬((0x80 ≤ a.toNat ∧ a.toNat ≤ 0x8A) ∨ a.toNat = 0xA8 ∨ a.toNat = 0xA9 ∨ a.toNat = 0xAF) := by omega
  simp only [wsSuffixLenRev, h1, h2, and_false, if_false]
  cases rest with
  | nil => rfl
  | cons b rest2 => cases rest2 <;> rfl

/-- `str::trim` removes nothing from a string of printable ASCII: every whitespace character of
    Unicode is a control character, the space, or begins and ends with a byte ≥ 0x80. -/
theorem trim_ascii {s : Bytes} (hne : s ≠ []) (h : ∀ c ∈ s, 32 < c.toNat ∧ c.toNat < 128) : trim s = s := by
  have hs : trimStart (s.length + 1) s = s := by
    obtain ⟨a, rest, rfl⟩ := List.exists_cons_of_ne_nil hne
    simp [trimStart, wsPrefixLen_ascii rest (h a List.mem_cons_self)]
  have he : trimEndRev (s.length + 1) s.reverse = s.reverse := by
    obtain ⟨a, rest, hr⟩ := List.exists_cons_of_ne_nil (mt List.reverse_eq_nil_iff.mp hne)
    have := h a (List.mem_reverse.mp (hr ▸ List.mem_cons_self))
    simp [hr, trimEndRev, wsSuffixLenRev_ascii rest this]
  rw [trim, hs, he, List.reverse_reverse]

end Bp7
