/-
  List lemmas for the block-list mutators (C08, C11): stable descending insertion, automatic
  numbering, first-match update, the forwarding update.

  Insertion is core's `List.merge` with a singleton (`insertDesc_eq_merge`), which gives the two facts
  it is described by — `insertDesc c l` is a permutation of `c :: l` (`insertDesc_perm`) and keeps a
  descending list descending (`insertDesc_sorted`) — and its behaviour at the end of the list;
  whatever is invariant under permutation follows from the first.
-/
import Bp7.Model.Mutate
namespace Bp7

/-- (block type, block number) of each block, in order -/
def sig (l : List Canon) : List (Nat × Nat) := l.map (fun c => (c.btype, c.num))

def insSig (x : Nat × Nat) : List (Nat × Nat) → List (Nat × Nat)
  | [] => [x]
  | y :: ys => if y.2 < x.2 then x :: y :: ys else y :: insSig x ys

theorem sig_types (l : List Canon) : (sig l).map (·.1) = l.map (·.btype) := by simp [sig]
theorem sig_nums (l : List Canon) : (sig l).map (·.2) = l.map (·.num) := by simp [sig]
theorem mem_sig_types {l : List Canon} {t : Nat} : t ∈ (sig l).map (·.1) ↔ ∃ c ∈ l, c.btype = t := by
  simp [sig]

/-- Stable insertion into a descending list is core's `merge` with a singleton on the right: an
    element stays in front of `x` as long as its number is not smaller. -/
theorem insertDesc_eq_merge (x : Canon) (l : List Canon) :
    insertDesc x l = l.merge [x] (fun a b => decide (a.num ≥ b.num)) := by
  induction l with
  | nil => rw [insertDesc, List.nil_merge]
  | cons y ys ih =>
    rw [insertDesc, List.cons_merge_cons, List.merge_right, ← ih]
    simp [← Nat.not_lt]

theorem insSig_eq_merge (x : Nat × Nat) (s : List (Nat × Nat)) :
    insSig x s = s.merge [x] (fun a b => decide (a.2 ≥ b.2)) := by
  induction s with
  | nil => rw [insSig, List.nil_merge]
  | cons y ys ih =>
    rw [insSig, List.cons_merge_cons, List.merge_right, ← ih]
    simp [← Nat.not_lt]

theorem sig_insertDesc (c : Canon) (l : List Canon) :
    sig (insertDesc c l) = insSig (c.btype, c.num) (sig l) := by
  rw [insertDesc_eq_merge, insSig_eq_merge]
  exact List.map_merge fun _ _ _ _ => rfl

theorem insSig_perm (x : Nat × Nat) (s : List (Nat × Nat)) : (insSig x s).Perm (x :: s) :=
  insSig_eq_merge x s ▸ (List.merge_perm_append _).trans (List.perm_append_singleton x s)

theorem mem_insSig (x z : Nat × Nat) (s : List (Nat × Nat)) : z ∈ insSig x s ↔ z = x ∨ z ∈ s := by
  rw [(insSig_perm x s).mem_iff]; simp

theorem insSig_at_end (x : Nat × Nat) (s : List (Nat × Nat)) (h : ∀ y ∈ s, ¬ y.2 < x.2) :
    insSig x s = s ++ [x] := by
  rw [insSig_eq_merge]
  exact List.merge_of_le fun a b ha hb => by simpa [List.mem_singleton.mp hb] using h a ha

theorem insertDesc_perm (c : Canon) (l : List Canon) : (insertDesc c l).Perm (c :: l) :=
  insertDesc_eq_merge c l ▸ (List.merge_perm_append _).trans (List.perm_append_singleton c l)

theorem mem_insertDesc (c z : Canon) (l : List Canon) : z ∈ insertDesc c l ↔ z = c ∨ z ∈ l := by
  rw [(insertDesc_perm c l).mem_iff]; simp

theorem length_insertDesc (c : Canon) (l : List Canon) : (insertDesc c l).length = l.length + 1 :=
  (insertDesc_perm c l).length_eq

theorem insertDesc_sorted (c : Canon) (l : List Canon) (h : l.Pairwise (fun x y => x.num ≥ y.num)) :
    (insertDesc c l).Pairwise (fun x y => x.num ≥ y.num) :=
  insertDesc_eq_merge c l ▸ (List.pairwise_merge (le := fun a b : Canon => decide (a.num ≥ b.num))
    (fun _ _ _ h1 h2 => decide_eq_true (Nat.le_trans (of_decide_eq_true h2) (of_decide_eq_true h1)))
    (fun a b => by simpa using Nat.le_total b.num a.num) l [c] (h.imp decide_eq_true)
    (List.pairwise_singleton _ _)).imp of_decide_eq_true

theorem insertDesc_at_end (x : Canon) (l : List Canon) (h : ∀ y ∈ l, ¬ y.num < x.num) :
    insertDesc x l = l ++ [x] := by
  rw [insertDesc_eq_merge]
  exact List.merge_of_le fun a b ha hb => by simpa [List.mem_singleton.mp hb] using h a ha

theorem insertDesc_before_last (x : Canon) (init : List Canon) (p : Canon) (h : p.num < x.num) :
    insertDesc x (init ++ [p]) = insertDesc x init ++ [p] := by
  induction init with
  | nil => simp [insertDesc, h]
  | cons y ys ih =>
    simp only [List.cons_append, insertDesc]
    split
    · rfl
    · rw [ih]; rfl

theorem find?_insertDesc_other (p : Canon → Bool) (c : Canon) (hc : p c = false) (l : List Canon) :
    (insertDesc c l).find? p = l.find? p := by
  induction l with
  | nil => simp [insertDesc, hc]
  | cons x xs ih =>
    simp only [insertDesc]
    split
    · simp [hc]
    · simp only [List.find?_cons, ih]

theorem sortDesc_sorted (l : List Canon) : (sortDesc l).Pairwise (fun x y => x.num ≥ y.num) :=
  List.foldlRecOn l _ List.Pairwise.nil fun acc h x _ => insertDesc_sorted x acc h

theorem sortDesc_of_sorted (l : List Canon) (h : l.Pairwise (fun x y => x.num ≥ y.num)) : sortDesc l = l := by
  unfold sortDesc
  suffices ∀ acc : List Canon, (acc ++ l).Pairwise (fun x y => x.num ≥ y.num) →
      l.foldl (fun acc x => insertDesc x acc) acc = acc ++ l from this [] h
  clear h
  induction l with
  | nil => intro acc _; simp
  | cons x xs ih =>
    intro acc h
    have hx : insertDesc x acc = acc ++ [x] :=
      insertDesc_at_end x acc fun y hy => Nat.not_lt.mpr ((List.pairwise_append.mp h).2.2 y hy x (by simp))
    rw [List.foldl_cons, hx, ih _ (by simpa using h)]
    simp

theorem sortDesc_snoc (l : List Canon) (c : Canon) (h : l.Pairwise (fun x y => x.num ≥ y.num)) :
    sortDesc (l ++ [c]) = insertDesc c l := by
  have : sortDesc (l ++ [c]) = insertDesc c (sortDesc l) := by simp [sortDesc]
  rw [this, sortDesc_of_sorted l h]

theorem maxNum_ge (l : List Canon) : 1 ≤ maxNum l ∧ ∀ c ∈ l, c.num ≤ maxNum l := by
  induction l with
  | nil => simp [maxNum]
  | cons x xs ih =>
    simp only [maxNum, List.mem_cons]
    refine ⟨by omega, ?_⟩
    rintro c (rfl | hc)
    · omega
    · have := ih.2 c hc; omega

theorem maxNum_lt (l : List Canon) (B : Nat) (hB : 1 < B) (h : ∀ c ∈ l, c.num < B) : maxNum l < B := by
  induction l with
  | nil => simpa [maxNum]
  | cons x xs ih =>
    have h1 := h x (by simp)
    have h2 := ih (fun c hc => h c (by simp [hc]))
    simp only [maxNum]; omega

/-- pigeonhole: the search passes each block at most once, so with more candidates than blocks
    it stops at an unused number -/
theorem firstUnused_spec (l : List Canon) : ∀ (fuel k : Nat),
    (l.filter (fun c => k ≤ c.num)).length < fuel →
    k ≤ firstUnused l fuel k ∧ firstUnused l fuel k ≤ k + (l.filter (fun c => k ≤ c.num)).length ∧
    l.any (fun c => c.num == firstUnused l fuel k) = false := by
  intro fuel
  induction fuel with
  | zero => intro k h; omega
  | succ f ih =>
    intro k hlen
    simp only [firstUnused]
    split
    · rename_i hk
      obtain ⟨c, hc, hck⟩ := List.any_eq_true.mp hk
      have hck : c.num = k := by simpa using hck
      -- the block numbered `k` is not among those numbered `k + 1` or more
      have hlt : (l.filter (fun c => k + 1 ≤ c.num)).length < (l.filter (fun c => k ≤ c.num)).length := by
        have : l.filter (fun c => k + 1 ≤ c.num)
            = (l.filter (fun c => k ≤ c.num)).filter (fun c => k + 1 ≤ c.num) := by
          rw [List.filter_filter]
          congr 1; funext c; simp; omega
        rw [this]
        exact List.length_filter_lt_length_iff_exists.mpr
          ⟨c, List.mem_filter.mpr ⟨hc, by simp [hck]⟩, by simp [hck]⟩
      obtain ⟨h1, h2, h3⟩ := ih (k + 1) (by omega)
      exact ⟨by omega, by omega, h3⟩
    · rename_i hk
      exact ⟨Nat.le_refl _, by omega, by simpa using hk⟩

theorem nextBlockNumber_spec (l : List Canon) (hlen : l.length + 2 < U64) :
    2 ≤ nextBlockNumber l ∧ nextBlockNumber l < U64 ∧ ∀ c ∈ l, c.num ≠ nextBlockNumber l := by
  have hm := maxNum_ge l
  unfold nextBlockNumber
  simp only
  split
  · rename_i h
    refine ⟨by omega, h, ?_⟩
    intro c hc; have := hm.2 c hc; omega
  · have hle := List.length_filter_le (fun c : Canon => 2 ≤ c.num) l
    obtain ⟨h1, h2, h3⟩ := firstUnused_spec l (l.length + 1) 2 (by omega)
    refine ⟨h1, by omega, ?_⟩
    intro c hc he
    exact List.any_eq_false.mp h3 c hc (by simpa using he)

theorem addBlock_primary (b : Bundle) (c : Canon) : (b.addBlock c).primary = b.primary := by
  unfold Bundle.addBlock; split <;> rfl

theorem setPayload_primary (b : Bundle) (d : Bytes) : (b.setPayload d).primary = b.primary := by
  unfold Bundle.setPayload; split
  · rfl
  · exact addBlock_primary _ _

/-- a payload block replaces whatever payload blocks there are: the managed-type test of
    `add_canonical_block` finds none left, and the number is forced to 1 -/
theorem setPayloadBlock_eq (b : Bundle) (c : Canon) (hc : c.btype = PAYLOAD_BLOCK) :
    b.setPayloadBlock c =
      { b with canon := sortDesc (b.canon.filter (fun x => x.btype != PAYLOAD_BLOCK) ++ [{ c with num := 1 }]) } := by
  have hnone : ∀ l : List Canon, (l.filter (fun x => x.btype != PAYLOAD_BLOCK)).find?
      (fun x => x.btype == PAYLOAD_BLOCK && x.extOk) = none := fun l =>
    List.find?_eq_none.mpr fun x hx => by simp [bne_iff_ne.mp (List.mem_filter.mp hx).2]
  simp [Bundle.setPayloadBlock, Bundle.addBlock, Bundle.blockByType, hc, hnone]

theorem updFirst_sig (q : Canon → Bool) (f : Canon → Canon)
    (hf : ∀ c, (f c).btype = c.btype ∧ (f c).num = c.num) (l : List Canon) :
    sig (updFirst q f l) = sig l := by
  induction l with
  | nil => rfl
  | cons c cs ih =>
    simp only [updFirst]
    split
    · simp [sig, hf c]
    · simp only [sig, List.map_cons] at ih ⊢; rw [ih]

theorem length_updFirst (q : Canon → Bool) (f : Canon → Canon) (l : List Canon) :
    (updFirst q f l).length = l.length := by
  induction l with
  | nil => rfl
  | cons x xs ih => simp only [updFirst]; split <;> simp [ih]

theorem updFirst_all (P : Canon → Prop) (q : Canon → Bool) (f : Canon → Canon)
    (hf : ∀ c, q c = true → P c → P (f c)) (l : List Canon) (h : ∀ c ∈ l, P c) :
    ∀ c ∈ updFirst q f l, P c := by
  induction l with
  | nil => exact h
  | cons x xs ih =>
    obtain ⟨hx, hxs⟩ := List.forall_mem_cons.mp h
    simp only [updFirst]
    split
    · exact List.forall_mem_cons.mpr ⟨hf x ‹_› hx, hxs⟩
    · exact List.forall_mem_cons.mpr ⟨hx, ih hxs⟩

theorem updFirst_append (q : Canon → Bool) (f : Canon → Canon) (l₁ l₂ : List Canon)
    (h : ∀ c ∈ l₁, q c = false) : updFirst q f (l₁ ++ l₂) = l₁ ++ updFirst q f l₂ := by
  induction l₁ with
  | nil => rfl
  | cons x xs ih =>
    simp only [List.cons_append, updFirst, h x (by simp), Bool.false_eq_true, if_false]
    rw [ih (fun c hc => h c (by simp [hc]))]

theorem updFirst_of_find (p : Canon → Bool) (f g : Canon → Canon) (l : List Canon)
    (h : ∀ c, l.find? p = some c → f c = g c) : updFirst p f l = updFirst p g l := by
  induction l with
  | nil => rfl
  | cons c cs ih =>
    simp only [updFirst]
    by_cases hp : p c = true
    · have := h c (by simp [hp])
      simp [hp, this]
    · simp only [hp, Bool.false_eq_true, if_false]
      rw [ih (fun x hx => h x (by simp [hp, hx]))]

theorem find?_updFirst_same (q : Canon → Bool) (f : Canon → Canon) (hf : ∀ c, q c = true → q (f c) = true)
    (l : List Canon) : (updFirst q f l).find? q = (l.find? q).map f := by
  induction l with
  | nil => rfl
  | cons x xs ih =>
    simp only [updFirst]
    by_cases hq : q x = true
    · simp [hq, hf x hq]
    · simp [hq, ih]

theorem find?_updFirst_other (p q : Canon → Bool) (f : Canon → Canon)
    (hf : ∀ c, q c = true → p c = false ∧ p (f c) = false) (l : List Canon) :
    (updFirst q f l).find? p = l.find? p := by
  induction l with
  | nil => rfl
  | cons x xs ih =>
    simp only [updFirst]
    by_cases hq : q x = true
    · simp [hq, (hf x hq).1, (hf x hq).2]
    · simp only [hq, Bool.false_eq_true, if_false, List.find?_cons, ih]

/-- the search is that of `extension_block_by_type` for type `t` -/
theorem find?_updFirst_type (t t' : Nat) (ht : t' ≠ t) (q : Canon → Bool) (f : Canon → Canon)
    (hq : ∀ c, q c = true → c.btype = t') (hf : ∀ c, (f c).btype = c.btype) (l : List Canon) :
    (updFirst q f l).find? (fun c => c.btype == t && c.extOk)
      = l.find? (fun c => c.btype == t && c.extOk) :=
  find?_updFirst_other _ q f (fun c hc => by simp [hf c, hq c hc, ht]) l

theorem bumpHop_sig (c : Canon) : (bumpHop c).btype = c.btype ∧ (bumpHop c).num = c.num := by
  unfold bumpHop; cases c.data <;> exact ⟨rfl, rfl⟩
theorem setPrev_sig (e : Eid) (c : Canon) : (setPrev e c).btype = c.btype ∧ (setPrev e c).num = c.num := by
  unfold setPrev; cases c.data <;> exact ⟨rfl, rfl⟩
theorem addAge_sig (rt : Nat) (c : Canon) : (addAge rt c).btype = c.btype ∧ (addAge rt c).num = c.num := by
  unfold addAge; cases c.data <;> exact ⟨rfl, rfl⟩

theorem isHop_btype (c : Canon) (h : isHop c = true) : c.btype = HOP_COUNT_BLOCK := by
  simp only [isHop, Bool.and_eq_true, beq_iff_eq] at h; exact h.1
theorem isPrev_btype (c : Canon) (h : isPrev c = true) : c.btype = PREVIOUS_NODE_BLOCK := by
  simp only [isPrev, Bool.and_eq_true, beq_iff_eq] at h; exact h.1
theorem isAge_btype (c : Canon) (h : isAge c = true) : c.btype = BUNDLE_AGE_BLOCK := by
  simp only [isAge, Bool.and_eq_true, beq_iff_eq] at h; exact h.1

/-- only the hop count is counted when it exceeds the limit -/
theorem updateExtensions_bundle (b : Bundle) (node : Eid) (rt now : Nat) :
    (b.updateExtensions node rt now).bundle = { b with canon :=
      (if (hopStep b.canon).1 then updFirst isHop bumpHop b.canon
       else updFirst isAge (addAge rt) (updFirst isPrev (setPrev node) (updFirst isHop bumpHop b.canon))) } := by
  unfold Bundle.updateExtensions
  simp only
  split
  · rfl
  · split <;> rfl

end Bp7
