/-
  The CBOR reader/writer model (Model/Cbor.lean): the readers written with `>>=`, and what they
  return on the writers' output.

  Model/Cbor.lean and Model/Eid.lean spell every sequencing step out as a `match` on the three
  outcomes. The equations up to `readHead_cases` restate each reader of Model/Cbor.lean with `>>=`
  (those of Model/Eid.lean and Model/Codec.lean: top of Lemmas/Codec.lean), so that a property
  of readers (no panic: C06, no success on a wrong major type: C19) is proved once for `>>=`,
  `pure`, `P.fail`, `recover` and the primitive readers, and follows for every other reader from its
  equation. A round-trip lemma has the form
  `rd_enc x (hx : x in range) d (hd : k ≤ d) rest : rd ⟨enc x ++ rest, d⟩ = (.ok x, ⟨rest, d⟩)`
  (`hd` where `enc x` has arrays: each nesting takes a level), depth before rest: `rd_enc x hx d hd` is what `collectElems_enc`, `readSeq_collect`,
  `fromSlice_enc`, `cancel_of_read` and C19's `Reads` take.
-/
import Bp7.Model.Cbor
namespace Bp7

theorem bind_apply {α β} (m : P α) (f : α → P β) (s : St) :
    (m >>= f) s =
      (match m s with
       | (.ok a, s') => f a s'
       | (.err e, s') => (.err e, s')
       | (.panic p, s') => (.panic p, s')) := rfl

theorem pure_apply {α} (a : α) (s : St) : (pure a : P α) s = (.ok a, s) := rfl

theorem bind_ok {α β} {m : P α} {s s' : St} {a : α} (h : m s = (.ok a, s')) (f : α → P β) :
    (m >>= f) s = f a s' := by rw [bind_apply, h]

theorem bind_err {α β} {m : P α} {s s' : St} {e : Err} (h : m s = (.err e, s')) (f : α → P β) :
    (m >>= f) s = (.err e, s') := by rw [bind_apply, h]

/-- `m` with an error swallowed: the value `a` instead, and the reader stays where the failed `m`
    left it (`unwrap_or_default()` on a `Result`) -/
def recover {α} (m : P α) (a : α) : P α := fun s =>
  match m s with
  | (.err _, s') => (.ok a, s')
  | r => r

theorem readArg_eq (ai : Nat) :
    readArg ai = if ai < 24 then pure ai else
      takeN (if ai = 24 then 1 else if ai = 25 then 2 else if ai = 26 then 4 else 8) >>= fun bs => pure (beVal bs) := by
  funext s; simp only [readArg]; split; rfl
  rw [bind_apply]; rcases takeN _ s with ⟨_ | _ | _, s'⟩ <;> rfl

def utf8Or (e : Err) (b : Bytes) : P Bytes := if validUtf8 b then pure b else P.fail e

theorem readChunks_cons (major fuel : Nat) (acc : Bytes) (b : UInt8) (rest : Bytes) (d : Nat) :
    readChunks major (fuel + 1) acc ⟨b :: rest, d⟩ =
      (if b.toNat = 255 then pure acc
       else if b.toNat / 32 = major ∧ b.toNat % 32 < 28 then
         readArg (b.toNat % 32) >>= fun len => takeN len >>= fun chunk => readChunks major fuel (acc ++ chunk)
       else P.fail .code) ⟨rest, d⟩ := by
  simp only [readChunks]; split; rfl
  split
  · rw [bind_apply]; rcases readArg _ _ with ⟨len | _ | _, s2⟩ <;> try rfl
    dsimp only; rw [bind_apply]; rcases takeN len s2 with ⟨_ | _ | _, s3⟩ <;> rfl
  · rfl

def chunks (major : Nat) : P Bytes := fun s => readChunks major (s.inp.length + 1) [] s

theorem reject_bytes {α} (len : Nat) : (reject (.bytes len) : P α) = takeN len >>= fun _ => P.fail .type := by
  funext s; simp only [reject, bind_apply]; rcases takeN len s with ⟨_ | _ | _, s'⟩ <;> rfl

theorem reject_text {α} (len : Nat) :
    (reject (.text len) : P α) = takeN len >>= fun b => if validUtf8 b then P.fail .type else P.fail .utf8 := by
  funext s; simp only [reject, bind_apply]; rcases takeN len s with ⟨b | _ | _, s'⟩ <;> try rfl
  dsimp only; split <;> rfl

theorem reject_bytesI {α} : (reject .bytesI : P α) = chunks 2 >>= fun _ => P.fail .type := by
  funext s; simp only [reject, bind_apply, chunks]; rcases readChunks 2 _ [] s with ⟨_ | _ | _, s'⟩ <;> rfl

theorem reject_textI {α} :
    (reject .textI : P α) = chunks 3 >>= fun b => if validUtf8 b then P.fail .type else P.fail .utf8 := by
  funext s; simp only [reject, bind_apply, chunks]; rcases readChunks 3 _ [] s with ⟨b | _ | _, s'⟩ <;> try rfl
  dsimp only; split <;> rfl

theorem parseWith_succ {α} (k : Head → P α) (fuel : Nat) :
    parseWith k (fuel + 1) = readHead >>= fun h =>
      match h with
      | .tag _ => recursionChecked (parseWith k fuel)
      | h => k h := by
  funext s; simp only [parseWith, bind_apply]; rcases readHead s with ⟨h | _ | _, s'⟩ <;> try rfl
  cases h <;> rfl

theorem kString_text (len : Nat) : kString (.text len) = takeN len >>= utf8Or .utf8 := by
  funext s; simp only [kString, bind_apply, utf8Or]; rcases takeN len s with ⟨b | _ | _, s'⟩ <;> try rfl
  dsimp only; split <;> rfl

theorem kString_bytes (len : Nat) : kString (.bytes len) = takeN len >>= utf8Or .value := by
  funext s; simp only [kString, bind_apply, utf8Or]; rcases takeN len s with ⟨b | _ | _, s'⟩ <;> try rfl
  dsimp only; split <;> rfl

theorem kString_textI : kString .textI = chunks 3 >>= utf8Or .utf8 := by
  funext s; simp only [kString, bind_apply, utf8Or, chunks]; rcases readChunks 3 _ [] s with ⟨b | _ | _, s'⟩ <;> try rfl
  dsimp only; split <;> rfl

theorem kString_bytesI : kString .bytesI = chunks 2 >>= utf8Or .value := by
  funext s; simp only [kString, bind_apply, utf8Or, chunks]; rcases readChunks 2 _ [] s with ⟨b | _ | _, s'⟩ <;> try rfl
  dsimp only; split <;> rfl

theorem nextElem_succ {α} (rd : P α) (n : Nat) :
    nextElem rd (some (n + 1)) = rd >>= fun a => pure (some a, some n) := rfl

theorem nextElem_none_cons {α} (rd : P α) (b : UInt8) (rest : Bytes) (d : Nat) :
    nextElem rd none ⟨b :: rest, d⟩ =
      if b.toNat = 255 then (.ok (none, none), ⟨b :: rest, d⟩)
      else (rd >>= fun a => pure (some a, none)) ⟨b :: rest, d⟩ := by
  simp only [nextElem]; split; rfl
  rw [bind_apply]; rcases rd _ with ⟨_ | _ | _, s'⟩ <;> rfl

theorem reqElem_eq {α} (rd : P α) (acc : Acc) :
    reqElem rd acc = nextElem rd acc >>= fun r =>
      match r with
      | (some a, acc') => pure (a, acc')
      | (none, _) => P.fail .length := by
  funext s; simp only [reqElem, bind_apply]
  rcases nextElem rd acc s with ⟨(⟨_ | a, acc'⟩) | _ | _, s'⟩ <;> rfl

theorem reqElem_succ {α} (rd : P α) (n : Nat) :
    reqElem rd (some (n + 1)) = rd >>= fun a => pure (a, some n) := by
  funext s; simp only [reqElem_eq, nextElem_succ, bind_apply]; rcases rd s with ⟨_ | _ | _, s'⟩ <;> rfl

theorem reqElem_none_cons {α} (rd : P α) (b : UInt8) (tl : Bytes) (d : Nat) (hb : b.toNat ≠ 255) :
    reqElem rd none ⟨b :: tl, d⟩ = (rd >>= fun a => pure (a, none)) ⟨b :: tl, d⟩ := by
  rw [reqElem_eq, bind_apply, nextElem_none_cons, if_neg hb, bind_apply, bind_apply]
  rcases rd _ with ⟨_ | _ | _, s'⟩ <;> rfl

def seqBody {α} (visit : Acc → P (α × Acc)) (acc : Acc) : P α :=
  visit acc >>= fun r => seqEnd r.2 >>= fun _ => pure r.1

theorem kSeq_array {α} (visit : Acc → P (α × Acc)) (len : Nat) :
    kSeq visit (.array len) = recursionChecked (seqBody visit (some len)) := by
  simp only [kSeq]; congr 1; funext s; rw [seqBody, bind_apply]
  rcases visit (some len) s with ⟨⟨a, acc⟩ | _ | _, s'⟩ <;> try rfl
  simp only [bind_apply]; rcases seqEnd acc s' with ⟨_ | _ | _, s''⟩ <;> rfl

theorem kSeq_arrayI {α} (visit : Acc → P (α × Acc)) :
    kSeq visit .arrayI = recursionChecked (seqBody visit none) := by
  simp only [kSeq]; congr 1; funext s; rw [seqBody, bind_apply]
  rcases visit none s with ⟨⟨a, acc⟩ | _ | _, s'⟩ <;> try rfl
  simp only [bind_apply]; rcases seqEnd acc s' with ⟨_ | _ | _, s''⟩ <;> rfl

theorem collectElems_succ {α} (rd : P α) (fuel : Nat) (out : List α) (acc : Acc) :
    collectElems rd (fuel + 1) out acc = nextElem rd acc >>= fun r =>
      match r with
      | (some a, acc') => collectElems rd fuel (out ++ [a]) acc'
      | (none, acc') => pure (out, acc') := by
  funext s; simp only [collectElems, bind_apply]
  rcases nextElem rd acc s with ⟨(⟨_ | a, acc'⟩) | _ | _, s'⟩ <;> rfl

/-- serde_bytes' visitor on a sequence: its elements as `u8` -/
def u8Seq (acc : Acc) : P (Bytes × Acc) :=
  (fun s => collectElems readU8 (s.inp.length + 1) [] acc s) >>= fun r => pure (r.1.map UInt8.ofNat, r.2)

theorem kByteBuf_array (len : Nat) : kByteBuf (.array len) = kSeq u8Seq (.array len) := by
  simp only [kByteBuf]; congr 1; funext acc s; simp only [u8Seq, bind_apply]
  rcases collectElems readU8 _ [] acc s with ⟨_ | _ | _, s'⟩ <;> rfl

theorem kByteBuf_arrayI : kByteBuf .arrayI = kSeq u8Seq .arrayI := by
  simp only [kByteBuf]; congr 1; funext acc s; simp only [u8Seq, bind_apply]
  rcases collectElems readU8 _ [] acc s with ⟨_ | _ | _, s'⟩ <;> rfl

/-- CBOR major type of a head as the reader reports it -/
def C19.Head.major : Head → Nat
  | .uint _ => 0 | .nint _ => 1 | .bytes _ | .bytesI => 2 | .text _ | .textI => 3
  | .array _ | .arrayI => 4 | .map _ | .mapI => 5 | .tag _ => 6
  | .bool _ | .unit | .float => 7

def headOf (major n : Nat) : Head :=
  if major = 0 then .uint n else if major = 1 then .nint n else if major = 2 then .bytes n
  else if major = 3 then .text n else if major = 4 then .array n else if major = 5 then .map n
  else .tag n

theorem major_headOf (m n : Nat) (hm : m < 7) : C19.Head.major (headOf m n) = m := by
  have : m = 0 ∨ m = 1 ∨ m = 2 ∨ m = 3 ∨ m = 4 ∨ m = 5 ∨ m = 6 := by omega
  rcases this with rfl | rfl | rfl | rfl | rfl | rfl | rfl <;> rfl

/-- Case principle for `readHead` on a first byte `b`: it stops behind `b` with a head of `b`'s major
    type (`ok`), refuses a reserved code (`bad`), or reads the argument `b` announces and then
    returns such a head (`arg`). -/
theorem readHead_cases (b : UInt8) (rest : Bytes) (d : Nat) (Q : Res Head × St → Prop)
    (ok : ∀ h, C19.Head.major h = b.toNat / 32 → Q (.ok h, ⟨rest, d⟩))
    (bad : Q (.err .code, ⟨rest, d⟩))
    (arg : ∀ H : Nat → Head, (∀ n, C19.Head.major (H n) = b.toNat / 32) →
      Q ((readArg (b.toNat % 32) >>= fun n => pure (H n)) ⟨rest, d⟩)) :
    Q (readHead ⟨b :: rest, d⟩) := by
  have hb : b.toNat / 32 < 8 := by have := b.toNat_lt; omega
  have arg' : ∀ H : Nat → Head, (∀ n, C19.Head.major (H n) = b.toNat / 32) →
      Q (match readArg (b.toNat % 32) ⟨rest, d⟩ with
        | (.ok n, s2) => (.ok (H n), s2)
        | (.err e, s2) => (.err e, s2)
        | (.panic p, s2) => (.panic p, s2)) := fun H hH => by
    have := arg H hH
    rw [bind_apply] at this
    generalize readArg (b.toNat % 32) ⟨rest, d⟩ = r at this ⊢
    rcases r with ⟨_ | _ | _, s2⟩ <;> exact this
  unfold readHead
  dsimp only
  -- `iteInduction`, not `split`: `split` runs `simp` over the whole nest of conditions at every level
  refine iteInduction (fun h7 => ?_) (fun h7 => ?_)
  · refine iteInduction (fun _ => ok _ h7.symm) fun _ => ?_
    refine iteInduction (fun _ => ok _ h7.symm) fun _ => ?_
    refine iteInduction (fun _ => ok _ h7.symm) fun _ => ?_
    exact iteInduction (fun _ => arg' (fun _ => .float) fun _ => h7.symm) fun _ => bad
  · refine iteInduction (fun _ => bad) fun _ => ?_
    refine iteInduction (fun _ => ?_) fun _ => ?_
    · refine iteInduction (fun h => ok _ h.symm) fun _ => ?_
      refine iteInduction (fun h => ok _ h.symm) fun _ => ?_
      refine iteInduction (fun h => ok _ h.symm) fun _ => ?_
      exact iteInduction (fun h => ok _ h.symm) fun _ => bad
    · exact arg' (headOf (b.toNat / 32)) fun n => major_headOf _ n (by omega)

theorem readHead_major (b : UInt8) (rest : Bytes) (d : Nat) (h : Head) (s1 : St)
    (hr : readHead ⟨b :: rest, d⟩ = (.ok h, s1)) : C19.Head.major h = b.toNat / 32 := by
  refine readHead_cases b rest d (fun r => ∀ h s1, r = (.ok h, s1) → C19.Head.major h = b.toNat / 32)
    (fun h' hm h s1 he => by cases he; exact hm) (fun _ _ he => by cases he) (fun H hm h s1 he => ?_) h s1 hr
  rw [bind_apply] at he
  generalize readArg (b.toNat % 32) ⟨rest, d⟩ = r at he
  rcases r with ⟨n | _ | _, s2⟩ <;> cases he
  exact hm n

theorem beBytes_length : ∀ k n, (beBytes k n).length = k
  | 0, _ => rfl
  | k+1, n => by simp [beBytes, beBytes_length k]

theorem encHead_length_le (m n : Nat) : (encHead m n).length ≤ 9 := by
  unfold encHead
  iterate 4 refine iteInduction (motive := fun l : Bytes => l.length ≤ 9) (fun _ => by simp [beBytes_length]) fun _ => ?_
  simp [beBytes_length]

theorem beVal_beBytes : ∀ k n, n < 256 ^ k → beVal (beBytes k n) = n
  | 0, n, h => by simp at h; simp [beBytes, beVal, h]
  | k+1, n, h => by
    have hpos : 0 < 256 ^ k := Nat.pow_pos (by decide)
    have h1 : n / 256 ^ k < 256 := by
      rw [Nat.div_lt_iff_lt_mul hpos]
      rw [Nat.pow_succ] at h; omega
    have h2 : n % 256 ^ k < 256 ^ k := Nat.mod_lt _ hpos
    simp only [beBytes, beVal, beBytes_length, UInt8.toNat_ofNat']
    rw [beVal_beBytes k _ h2, Nat.mod_eq_of_lt h1]
    exact Nat.div_add_mod' n (256 ^ k)

theorem takeN_append (b rest : Bytes) (d : Nat) :
    takeN b.length ⟨b ++ rest, d⟩ = (.ok b, ⟨rest, d⟩) := by
  simp [takeN]

theorem readArg_small (n : Nat) (h : n < 24) : readArg n = pure n := by
  rw [readArg_eq, if_pos h]

/-- additional information `24 + j` announces the `2 ^ j` argument bytes that follow -/
theorem readArg_beBytes (j n : Nat) (hj : j < 4) (hn : n < 256 ^ 2 ^ j) (rest : Bytes) (d : Nat) :
    readArg (24 + j) ⟨beBytes (2 ^ j) n ++ rest, d⟩ = (.ok n, ⟨rest, d⟩) := by
  have ht := takeN_append (beBytes (2 ^ j) n) rest d
  rw [beBytes_length] at ht
  have hj' : j = 0 ∨ j = 1 ∨ j = 2 ∨ j = 3 := by omega
  rcases hj' with rfl | rfl | rfl | rfl <;> simp [readArg, ht, beVal_beBytes _ n hn]

theorem readHead_ofNat (major ai : Nat) (hm : major < 7) (ha : ai < 28) (rest : Bytes) (d : Nat) :
    readHead ⟨UInt8.ofNat (major * 32 + ai) :: rest, d⟩ = (readArg ai >>= fun n => pure (headOf major n)) ⟨rest, d⟩ := by
  have e : (major * 32 + ai) % 256 = major * 32 + ai := by omega
  have h1 : (major * 32 + ai) / 32 = major := by omega
  have h2 : (major * 32 + ai) % 32 = ai := by omega
  have h7 : ¬ major = 7 := by omega
  have h28 : ¬ (ai = 28 ∨ ai = 29 ∨ ai = 30) := by omega
  have h31 : ¬ ai = 31 := by omega
  rw [bind_apply]
  simp only [readHead, UInt8.toNat_ofNat', e, h1, h2, h7, h28, h31, if_false, headOf]
  rcases readArg ai ⟨rest, d⟩ with ⟨_ | _ | _, s⟩ <;> rfl

theorem readHead_arg (major j n : Nat) (hm : major < 7) (hj : j < 4) (hn : n < 256 ^ 2 ^ j) (rest : Bytes) (d : Nat) :
    readHead ⟨UInt8.ofNat (major * 32 + (24 + j)) :: (beBytes (2 ^ j) n ++ rest), d⟩
      = (.ok (headOf major n), ⟨rest, d⟩) := by
  rw [readHead_ofNat major _ hm (by omega), bind_ok (readArg_beBytes j n hj hn rest d)]; rfl

theorem readHead_encHead (major n : Nat) (hm : major < 7) (hn : n < 18446744073709551616)
    (rest : Bytes) (d : Nat) :
    readHead ⟨encHead major n ++ rest, d⟩ = (.ok (headOf major n), ⟨rest, d⟩) := by
  unfold encHead
  split
  · rw [List.singleton_append, readHead_ofNat major n hm (by omega), readArg_small n ‹_›]; rfl
  split
  · simpa [beBytes] using readHead_arg major 0 n hm (by omega) (by omega) rest d
  split
  · exact readHead_arg major 1 n hm (by omega) (by omega) rest d
  split
  · exact readHead_arg major 2 n hm (by omega) (by omega) rest d
  · exact readHead_arg major 3 n hm (by omega) (by omega) rest d

theorem parseWith_encHead {α} (k : Head → P α) (major n fuel : Nat) (hm : major < 6)
    (hn : n < 18446744073709551616) (rest : Bytes) (d : Nat) :
    parseWith k (fuel+1) ⟨encHead major n ++ rest, d⟩ = k (headOf major n) ⟨rest, d⟩ := by
  have hm' : major = 0 ∨ major = 1 ∨ major = 2 ∨ major = 3 ∨ major = 4 ∨ major = 5 := by omega
  rw [parseWith_succ, bind_ok (readHead_encHead major n (by omega) hn rest d)]
  rcases hm' with rfl | rfl | rfl | rfl | rfl | rfl <;> rfl

theorem parseWith_tag {α} (k : Head → P α) (fuel t : Nat) (ht : t < 18446744073709551616) (rest : Bytes) (d : Nat) :
    parseWith k (fuel + 1) ⟨encHead 6 t ++ rest, d⟩ = recursionChecked (parseWith k fuel) ⟨rest, d⟩ := by
  rw [parseWith_succ, bind_ok (readHead_encHead 6 t (by omega) ht rest d)]
  rfl

theorem parseWith_kUint (bound n : Nat) (hn : n < 18446744073709551616) (fuel : Nat) (rest : Bytes) (d : Nat) :
    parseWith (kUint bound) (fuel + 1) ⟨encUint n ++ rest, d⟩
      = (if n < bound then .ok n else .err .value, ⟨rest, d⟩) := by
  rw [encUint, parseWith_encHead _ 0 n _ (by omega) hn]
  show (if n < bound then P.pure n else P.fail .value) ⟨rest, d⟩ = _
  split <;> rfl

theorem readU64_enc (n : Nat) (hn : n < 18446744073709551616) (d : Nat) (rest : Bytes) :
    readU64 ⟨encUint n ++ rest, d⟩ = (.ok n, ⟨rest, d⟩) :=
  (parseWith_kUint _ n hn _ rest d).trans (by rw [if_pos hn])

theorem readU32_enc (n : Nat) (hn : n < 4294967296) (d : Nat) (rest : Bytes) :
    readU32 ⟨encUint n ++ rest, d⟩ = (.ok n, ⟨rest, d⟩) :=
  (parseWith_kUint _ n (by omega) _ rest d).trans (by rw [if_pos hn])

theorem readU8_enc (n : Nat) (hn : n < 256) (d : Nat) (rest : Bytes) :
    readU8 ⟨encUint n ++ rest, d⟩ = (.ok n, ⟨rest, d⟩) :=
  (parseWith_kUint _ n (by omega) _ rest d).trans (by rw [if_pos hn])

/-- numbers below 24 are written into the first byte -/
theorem encUint_small (n : Nat) (h : n < 24) : encUint n = [UInt8.ofNat n] := by
  rw [encUint, encHead, if_pos h, Nat.zero_mul, Nat.zero_add]

theorem encArrayHead_small (n : Nat) (h : n < 24) : encArrayHead n = [UInt8.ofNat (128 + n)] := by
  simp [encArrayHead, encHead, h]

theorem parseWith_small_uint {α} (k : Head → P α) (fuel n : Nat) (hn : n < 24) (x : Bytes) (d : Nat) :
    parseWith k (fuel + 1) ⟨UInt8.ofNat n :: x, d⟩ = k (.uint n) ⟨x, d⟩ := by
  have := parseWith_encHead k 0 n fuel (by omega) (by omega) x d
  rwa [← encUint, encUint_small n hn] at this

theorem encHead_major (major n : Nat) (hm : major < 8) : ∃ b tl, encHead major n = b :: tl ∧ b.toNat / 32 = major := by
  obtain ⟨a, tl, ha, h⟩ : ∃ a tl, a < 32 ∧ encHead major n = UInt8.ofNat (major * 32 + a) :: tl := by
    unfold encHead
    iterate 4
      refine iteInduction (motive := fun l : Bytes => ∃ a tl, a < 32 ∧ l = UInt8.ofNat (major * 32 + a) :: tl)
        (fun _ => ⟨_, _, by omega, rfl⟩) fun _ => ?_
    exact ⟨_, _, by omega, rfl⟩
  exact ⟨_, tl, h, by rw [UInt8.toNat_ofNat']; omega⟩

theorem readString_enc (b : Bytes) (hl : b.length < 18446744073709551616) (hu : validUtf8 b = true)
    (d : Nat) (rest : Bytes) :
    readString ⟨encText b ++ rest, d⟩ = (.ok b, ⟨rest, d⟩) := by
  unfold readString encText tagFuel
  rw [List.append_assoc, parseWith_encHead _ 3 _ _ (by omega) hl]
  simp [headOf, kString, takeN_append, hu]

theorem readByteBuf_enc (b : Bytes) (hl : b.length < 18446744073709551616) (d : Nat) (rest : Bytes) :
    readByteBuf ⟨encBytes b ++ rest, d⟩ = (.ok b, ⟨rest, d⟩) := by
  unfold readByteBuf encBytes tagFuel
  rw [List.append_assoc, parseWith_encHead _ 2 _ _ (by omega) hl]
  simp [headOf, kByteBuf, takeN_append]

theorem readBool_enc (b : Bool) (d : Nat) (rest : Bytes) :
    readBool ⟨encBool b ++ rest, d⟩ = (.ok b, ⟨rest, d⟩) := by
  cases b <;> simp [readBool, encBool, tagFuel, parseWith, readHead, kBool, P.pure]

/-- a writer whose reader finds the value and the end of the item again is injective, and no
    encoding is a proper prefix of another -/
theorem cancel_of_read {α} {rd : P α} {a b : α} {ea eb x y : Bytes} {d : Nat}
    (ha : ∀ rest, rd ⟨ea ++ rest, d⟩ = (.ok a, ⟨rest, d⟩)) (hb : ∀ rest, rd ⟨eb ++ rest, d⟩ = (.ok b, ⟨rest, d⟩))
    (h : ea ++ x = eb ++ y) : a = b ∧ x = y := by
  have := ha x
  rw [h, hb y] at this
  cases this
  exact ⟨rfl, rfl⟩

theorem uint_cancel {a b : Nat} (ha : a < 18446744073709551616) (hb : b < 18446744073709551616) {x y : Bytes}
    (h : encUint a ++ x = encUint b ++ y) : a = b ∧ x = y :=
  cancel_of_read (readU64_enc a ha 0) (readU64_enc b hb 0) h

theorem encBytes_inj {a b : Bytes} (ha : a.length < 18446744073709551616) (hb : b.length < 18446744073709551616)
    (h : encBytes a = encBytes b) : a = b :=
  (cancel_of_read (readByteBuf_enc a ha 0) (readByteBuf_enc b hb 0) (congrArg (· ++ []) h)).1

theorem recursionChecked_of_le {α} (f : P α) (inp : Bytes) (d : Nat) (hd : 2 ≤ d) :
    recursionChecked f ⟨inp, d⟩ = ((f ⟨inp, d - 1⟩).1, { (f ⟨inp, d - 1⟩).2 with depth := (f ⟨inp, d - 1⟩).2.depth + 1 }) := by
  have h0 : ¬ d = 0 := by omega
  have h1 : ¬ d - 1 = 0 := by omega
  simp [recursionChecked, h0, h1]

theorem recursionChecked_succ {α} (f : P α) (inp : Bytes) (d : Nat) :
    recursionChecked f ⟨inp, d + 2⟩ = ((f ⟨inp, d + 1⟩).1, { (f ⟨inp, d + 1⟩).2 with depth := (f ⟨inp, d + 1⟩).2.depth + 1 }) :=
  recursionChecked_of_le f inp (d + 2) (Nat.le_add_left 2 d)

/-- each tag costs one level of the recursion budget and one unit of fuel, nothing else; `m` is the
    depth the untagged item needs -/
theorem parseWith_tags {α} (k : Head → P α) (item : Bytes) (v : α) (m : Nat) (hm : 1 ≤ m)
    (h : ∀ fuel d, m ≤ d → ∀ rest, parseWith k (fuel + 1) ⟨item ++ rest, d⟩ = (.ok v, ⟨rest, d⟩)) :
    ∀ (ts : List Nat), (∀ t ∈ ts, t < 18446744073709551616) → ∀ (fuel d : Nat), ts.length ≤ fuel → m + ts.length ≤ d →
      ∀ rest, parseWith k (fuel + 1) ⟨(ts.map (encHead 6)).flatten ++ item ++ rest, d⟩ = (.ok v, ⟨rest, d⟩)
  | [], _, fuel, d, _, hd, rest => h fuel d hd rest
  | t :: ts, hts, fuel, d, hf, hd, rest => by
    rw [List.length_cons] at hf hd
    obtain ⟨fuel, rfl⟩ : ∃ k, fuel = k + 1 := ⟨fuel - 1, by omega⟩
    obtain ⟨d, rfl⟩ : ∃ k, d = k + 2 := ⟨d - 2, by omega⟩
    rw [List.map_cons, List.flatten_cons, List.append_assoc, List.append_assoc, ← List.append_assoc (List.flatten _),
      parseWith_tag _ _ t (hts t List.mem_cons_self), recursionChecked_succ,
      parseWith_tags k item v m hm h ts (fun x hx => hts x (List.mem_cons_of_mem t hx)) fuel (d + 1) (by omega) (by omega)]

theorem readSeq_encArrayHead {α} (visit : Acc → P (α × Acc)) (n : Nat) (hn : n < 18446744073709551616)
    (body : Bytes) (d : Nat) :
    readSeq visit ⟨encArrayHead n ++ body, d⟩ = recursionChecked (seqBody visit (some n)) ⟨body, d⟩ := by
  unfold readSeq encArrayHead tagFuel
  rw [parseWith_encHead _ 4 n _ (by omega) hn]
  exact congrFun (kSeq_array visit n) _

theorem readSeq_ok {α} (visit : Acc → P (α × Acc)) (n : Nat) (hn : n < 18446744073709551616)
    (inp rest : Bytes) (d : Nat) (hd : 2 ≤ d) (v : α)
    (hv : visit (some n) ⟨inp, d - 1⟩ = (.ok (v, some 0), ⟨rest, d - 1⟩)) :
    readSeq visit ⟨encArrayHead n ++ inp, d⟩ = (.ok v, ⟨rest, d⟩) := by
  rw [readSeq_encArrayHead visit n hn, recursionChecked_of_le _ _ d hd, seqBody, bind_ok hv]
  show (Res.ok v, (⟨rest, d - 1 + 1⟩ : St)) = _
  rw [Nat.sub_add_cancel (Nat.le_of_succ_le hd)]

theorem readSeq_visit_err {α} (visit : Acc → P (α × Acc)) (n : Nat) (hn : n < 18446744073709551616)
    (body : Bytes) (d : Nat) (hd : 2 ≤ d) (e : Err) (s' : St)
    (hv : visit (some n) ⟨body, d - 1⟩ = (.err e, s')) :
    readSeq visit ⟨encArrayHead n ++ body, d⟩ = (.err e, { s' with depth := s'.depth + 1 }) := by
  rw [readSeq_encArrayHead visit n hn, recursionChecked_of_le _ _ d hd, seqBody, bind_err hv]

theorem readSeq_leftover {α} (visit : Acc → P (α × Acc)) (n : Nat) (hn : n < 18446744073709551616)
    (body : Bytes) (d : Nat) (hd : 2 ≤ d) (v : α) (k : Nat) (s' : St)
    (hv : visit (some n) ⟨body, d - 1⟩ = (.ok (v, some (k + 1)), s')) :
    readSeq visit ⟨encArrayHead n ++ body, d⟩ = (.err .trailing, { s' with depth := s'.depth + 1 }) := by
  rw [readSeq_encArrayHead visit n hn, recursionChecked_of_le _ _ d hd, seqBody, bind_ok hv]
  rfl

theorem parseWith_kSeq_arrayI {α} (visit : Acc → P (α × Acc)) (fuel : Nat) (body : Bytes) (d : Nat) :
    parseWith (kSeq visit) (fuel + 1) ⟨0x9f :: body, d⟩ = recursionChecked (seqBody visit none) ⟨body, d⟩ := by
  rw [parseWith_succ, bind_ok (show readHead ⟨0x9f :: body, d⟩ = (.ok .arrayI, ⟨body, d⟩) by simp [readHead])]
  exact congrFun (kSeq_arrayI visit) _

theorem collectElems_break {α} (rd : P α) (fuel : Nat) (out : List α) (rest : Bytes) (d : Nat) :
    collectElems rd (fuel + 1) out none ⟨0xff :: rest, d⟩ = (.ok (out, none), ⟨0xff :: rest, d⟩) := by
  rw [collectElems_succ, bind_apply, nextElem_none_cons]; rfl

theorem collectElems_eof {α} (rd : P α) (fuel : Nat) (out : List α) (d : Nat) :
    collectElems rd (fuel + 1) out none ⟨[], d⟩ = (.err .eof, ⟨[], d⟩) := rfl

theorem collectElems_err {α} (rd : P α) (fuel : Nat) (out : List α) (b : UInt8) (tl : Bytes) (d : Nat)
    (hb : b.toNat ≠ 255) (e : Err) (s' : St) (h : rd ⟨b :: tl, d⟩ = (.err e, s')) :
    collectElems rd (fuel + 1) out none ⟨b :: tl, d⟩ = (.err e, s') := by
  rw [collectElems_succ, bind_err (by rw [nextElem_none_cons, if_neg hb, bind_err h])]

theorem length_le_flatten {α} (enc : α → Bytes) (xs : List α) (h : ∀ x ∈ xs, enc x ≠ []) :
    xs.length ≤ ((xs.map enc).flatten).length := by
  induction xs with
  | nil => exact Nat.le_refl 0
  | cons x xs ih =>
    have := List.length_pos_iff.2 (h x (by simp))
    have := ih fun y hy => h y (by simp [hy])
    simp only [List.map_cons, List.flatten_cons, List.length_append, List.length_cons]
    omega

/-- each element costs one unit of fuel; one more unit to see that none is left -/
theorem collectElems_enc {α} (rd : P α) (enc : α → Bytes) (xs : List α) (d : Nat)
    (hrd : ∀ x ∈ xs, ∀ rest, rd ⟨enc x ++ rest, d⟩ = (.ok x, ⟨rest, d⟩)) (rest : Bytes) (f : Nat) :
    ∀ out : List α, collectElems rd (xs.length + (f + 1)) out (some xs.length) ⟨(xs.map enc).flatten ++ rest, d⟩
      = (.ok (out ++ xs, some 0), ⟨rest, d⟩) := by
  induction xs with
  | nil => intro out; rw [List.append_nil]; rfl
  | cons x xs ih =>
    intro out
    rw [List.length_cons, Nat.add_right_comm _ 1, collectElems_succ, nextElem_succ, List.map_cons, List.flatten_cons,
      List.append_assoc, bind_ok (bind_ok (hrd x (by simp) _) _)]
    simpa using ih (fun y hy => hrd y (by simp [hy])) (out ++ [x])

theorem collectElems_enc_indef {α} (rd : P α) (enc : α → Bytes) (xs : List α) (d : Nat)
    (hrd : ∀ x ∈ xs, ∀ rest, rd ⟨enc x ++ rest, d⟩ = (.ok x, ⟨rest, d⟩))
    (hne : ∀ x ∈ xs, ∃ b tl, enc x = b :: tl ∧ b.toNat ≠ 255) (rest : Bytes) : ∀ (f : Nat) (out : List α),
    collectElems rd (xs.length + f) out none ⟨(xs.map enc).flatten ++ rest, d⟩
      = collectElems rd f (out ++ xs) none ⟨rest, d⟩ := by
  induction xs with
  | nil => intro f out; simp
  | cons x xs ih =>
    intro f out
    have hx := hrd x (by simp) ((xs.map enc).flatten ++ rest)
    obtain ⟨b, tl, hb, hb255⟩ := hne x (by simp)
    rw [List.length_cons, Nat.add_right_comm, collectElems_succ, List.map_cons, List.flatten_cons, List.append_assoc]
    rw [hb] at hx ⊢
    rw [List.cons_append] at hx ⊢
    rw [bind_ok (show nextElem rd none _ = _ by rw [nextElem_none_cons, if_neg hb255, bind_ok hx]; rfl)]
    simpa using ih (fun y hy => hrd y (by simp [hy])) (fun y hy => hne y (by simp [hy])) f (out ++ [x])

/-- serde's `Vec<T>` visitor; the input is fuel enough because no element is encoded by nothing -/
theorem readSeq_collect {α} (rd : P α) (enc : α → Bytes) (xs : List α) (hl : xs.length < 18446744073709551616)
    (d : Nat) (hd : 2 ≤ d) (hrd : ∀ x ∈ xs, ∀ rest, rd ⟨enc x ++ rest, d - 1⟩ = (.ok x, ⟨rest, d - 1⟩))
    (hne : ∀ x ∈ xs, enc x ≠ []) (rest : Bytes) :
    readSeq (fun acc s => collectElems rd (s.inp.length + 1) [] acc s)
      ⟨encArrayHead xs.length ++ ((xs.map enc).flatten ++ rest), d⟩ = (.ok xs, ⟨rest, d⟩) := by
  obtain ⟨k, hk⟩ := Nat.exists_eq_add_of_le (length_le_flatten enc xs hne)
  refine readSeq_ok _ _ hl _ rest d hd xs ?_
  rw [show ((xs.map enc).flatten ++ rest).length + 1 = xs.length + (k + rest.length + 1) by
    rw [List.length_append, hk]; omega]
  exact collectElems_enc rd enc xs (d - 1) hrd rest _ []

theorem fromSlice_enc {α} (rd : P α) (bytes : Bytes) (v : α)
    (h : ∀ rest, rd ⟨bytes ++ rest, 128⟩ = (.ok v, ⟨rest, 128⟩)) : fromSlice rd bytes = .ok v := by
  have h := h []
  rw [List.append_nil] at h
  rw [fromSlice, h]
  rfl

theorem fromSlice_trailing {α} (rd : P α) (bytes : Bytes) (v : α)
    (h : ∀ rest, rd ⟨bytes ++ rest, 128⟩ = (.ok v, ⟨rest, 128⟩)) (x : UInt8) (xs : Bytes) :
    fromSlice rd (bytes ++ x :: xs) = .err .trailing := by
  rw [fromSlice, h]
  rfl

end Bp7
