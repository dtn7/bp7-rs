/-
  The bundle codec (Model/Eid.lean, Model/Codec.lean): its visitors written with `>>=`, the
  domains `wf` / `wfX` on which decoding inverts encoding, and the round-trip lemmas — per field,
  per block, and for the block sequence `9f <blocks> …` read at any depth.
-/
import Bp7.Model.Codec
import Bp7.Lemmas.Cbor
namespace Bp7

theorem visitPairU64_eq (acc : Acc) :
    visitPairU64 acc = reqElem readU64 acc >>= fun r => reqElem readU64 r.2 >>= fun r' => pure ((r.1, r'.1), r'.2) := by
  funext s; simp only [visitPairU64, bind_apply]
  rcases reqElem readU64 acc s with ⟨⟨a, acc1⟩ | _ | _, s1⟩ <;> try rfl
  dsimp only; rcases reqElem readU64 acc1 s1 with ⟨_ | _ | _, s2⟩ <;> rfl

/-- scheme 1: a failed read of the ssp is swallowed and stands for `dtn:none`, as does an empty
    or missing one; a definite-length sequence has counted the element all the same -/
theorem visitEid_eq (acc : Acc) :
    visitEid acc = reqElem readU8 acc >>= fun r =>
      if r.1 = 1 then
        recover (nextElem readString r.2 >>= fun q =>
            match q with
            | (some name, acc2) => pure (if name.isEmpty then Eid.dtnNone else .dtn 1 name, acc2)
            | (none, acc2) => pure (Eid.dtnNone, acc2))
          (Eid.dtnNone, match r.2 with | some (n+1) => some n | a => a)
      else if r.1 = 2 then
        reqElem readPairU64 r.2 >>= fun q => if q.1.1 ≥ 1 then pure (.ipn 2 q.1.1 q.1.2, q.2) else P.fail .value
      else P.fail .value := by
  funext s; rw [visitEid, bind_apply]
  rcases reqElem readU8 acc s with ⟨⟨code, acc1⟩ | _ | _, s1⟩ <;> try rfl
  dsimp only
  -- `by_cases` and `if_pos` / `if_neg` on both sides, not `split`, which runs `simp` over the whole term
  by_cases h1 : code = 1
  · rw [if_pos h1, if_pos h1, recover, bind_apply]
    rcases nextElem readString acc1 s1 with ⟨⟨_ | _, _⟩ | _ | _, s2⟩ <;> rfl
  rw [if_neg h1, if_neg h1]
  by_cases h2 : code = 2
  · rw [if_pos h2, if_pos h2, bind_apply]
    rcases reqElem readPairU64 acc1 s1 with ⟨⟨⟨node, svc⟩, _⟩ | _ | _, s2⟩ <;> try rfl
    dsimp only [withIpn]
    by_cases hn : node ≥ 1
    · rw [if_pos hn, if_pos hn]; rfl
    · rw [if_neg hn, if_neg hn]; rfl
  rw [if_neg h2, if_neg h2]; rfl

theorem visitCrc_eq (code : Nat) (acc : Acc) :
    visitCrc code acc =
      if code = 0 then pure (.no, acc)
      else if code = 1 then reqElem readByteBuf acc >>= fun r =>
        match r.1 with
        | [x, y] => pure (.v16 x y, r.2)
        | _ => P.fail .length
      else if code = 2 then reqElem readByteBuf acc >>= fun r =>
        match r.1 with
        | [x, y, z, w] => pure (.v32 x y z w, r.2)
        | _ => P.fail .length
      else pure (.unknown code, acc) := by
  funext s; rw [visitCrc]
  by_cases h0 : code = 0
  · rw [if_pos h0, if_pos h0]; rfl
  rw [if_neg h0, if_neg h0]
  by_cases h1 : code = 1
  · rw [if_pos h1, if_pos h1, bind_apply]; rcases reqElem readByteBuf acc s with ⟨⟨b, acc'⟩ | _ | _, s'⟩ <;> try rfl
    rcases b with _ | ⟨_, _ | ⟨_, _ | _⟩⟩ <;> rfl
  rw [if_neg h1, if_neg h1]
  by_cases h2 : code = 2
  · rw [if_pos h2, if_pos h2, bind_apply]; rcases reqElem readByteBuf acc s with ⟨⟨b, acc'⟩ | _ | _, s'⟩ <;> try rfl
    rcases b with _ | ⟨_, _ | ⟨_, _ | ⟨_, _ | ⟨_, _ | _⟩⟩⟩⟩ <;> rfl
  rw [if_neg h2, if_neg h2]; rfl

theorem visitBundle_eq (acc : Acc) :
    visitBundle acc = reqElem readPrimary acc >>= fun r =>
      (fun s => collectElems readCanon (s.inp.length + 1) [] r.2 s) >>= fun c =>
      pure ({ primary := r.1, canon := c.1 }, c.2) := by
  funext s; simp only [visitBundle, bind_apply]
  rcases reqElem readPrimary acc s with ⟨⟨p, acc1⟩ | _ | _, s1⟩ <;> try rfl
  dsimp only; rcases collectElems readCanon _ [] acc1 s1 with ⟨_ | _ | _, s2⟩ <;> rfl

def Eid.wf : Eid → Bool
  | .null c v => c == 1 && v == 0
  | .dtn c ssp => c == 1 && !ssp.isEmpty && validUtf8 ssp && decide (ssp.length < U64)
  | .ipn c n s => c == 2 && decide (1 ≤ n) && decide (n < U64) && decide (s < U64)

/-- CRC values that exist on the wire -/
def CrcVal.wire : CrcVal → Bool
  | .no | .v16 _ _ | .v32 _ _ _ _ => true
  | _ => false

/-- CRC values of the C01 domain (any prior state of a known CRC type) -/
def CrcVal.known : CrcVal → Bool
  | .unknown _ => false
  | _ => true

/-- what a decoder can hand back: wire values, or an unknown type code 3..255 (which has no CRC field) -/
def CrcVal.wireX : CrcVal → Bool
  | .unknown k => decide (3 ≤ k) && decide (k < 256)
  | c => c.wire

/-- CRC values of the extended C01 domain: a known type in any prior state, or an unknown code 3..255 -/
def CrcVal.knownX : CrcVal → Bool
  | .unknown k => decide (3 ≤ k) && decide (k < 256)
  | _ => true

def Primary.wf (p : Primary) : Bool :=
  decide (p.version < U32) && decide (p.flags < U64) && p.crc.known
  && p.dst.wf && p.src.wf && p.rpt.wf
  && decide (p.ts < U64) && decide (p.seq < U64) && decide (p.lifetime < U64)
  && decide (p.fragOff < U64) && decide (p.total < U64)
  && (p.isFragment || (p.fragOff == 0 && p.total == 0))

def Canon.wf (c : Canon) : Bool :=
  decide (c.btype < U64) && decide (c.num < U64) && decide (c.flags < 256) && c.crc.known
  && decide ((btsd c.data).length < U64)
  && (match c.data with
      | .data _ => c.btype == PAYLOAD_BLOCK
      | .age ms => c.btype == BUNDLE_AGE_BLOCK && decide (ms < U64)
      | .hop l n => c.btype == HOP_COUNT_BLOCK && decide (l < 256) && decide (n < 256)
      | .prev e => c.btype == PREVIOUS_NODE_BLOCK && e.wf
      | .unknown _ => c.btype != PAYLOAD_BLOCK && c.btype != BUNDLE_AGE_BLOCK && c.btype != HOP_COUNT_BLOCK
                      && c.btype != PREVIOUS_NODE_BLOCK
      | .decErr => false)

def Bundle.wf (b : Bundle) : Bool := b.primary.wf && b.canon.all Canon.wf

/-- the field conditions of `wf` alone, whatever the CRC value is -/
def Primary.wfF (p : Primary) : Bool := ({ p with crc := .no } : Primary).wf
def Canon.wfF (c : Canon) : Bool := ({ c with crc := .no } : Canon).wf

/-- the extended C01 domain: as `wf`, with CRC type codes the library does not know allowed -/
def Primary.wfX (p : Primary) : Bool := p.wfF && p.crc.knownX
def Canon.wfX (c : Canon) : Bool := c.wfF && c.crc.knownX
def Bundle.wfX (b : Bundle) : Bool := b.primary.wfX && b.canon.all Canon.wfX

theorem U64_eq : U64 = 18446744073709551616 := rfl
theorem U32_eq : U32 = 4294967296 := rfl

theorem isFragment_iff (p : Primary) : p.isFragment = flagsContain F_ALL p.flags F_IS_FRAGMENT := rfl
theorem Primary.isFragment_setCrc (p : Primary) (c : CrcVal) : ({ p with crc := c } : Primary).isFragment = p.isFragment := rfl
theorem Primary.wfF_setCrc (p : Primary) (c : CrcVal) : ({ p with crc := c } : Primary).wfF = p.wfF := rfl
theorem Canon.wfF_setCrc (c : Canon) (v : CrcVal) : ({ c with crc := v } : Canon).wfF = c.wfF := rfl

theorem Primary.wf_iff (p : Primary) : p.wf = true ↔ p.wfF = true ∧ p.crc.known = true := by
  unfold Primary.wfF Primary.wf
  cases p.crc.known <;> simp [CrcVal.known, Primary.isFragment]
theorem Canon.wf_iff (c : Canon) : c.wf = true ↔ c.wfF = true ∧ c.crc.known = true := by
  unfold Canon.wfF Canon.wf
  cases c.crc.known <;> simp [CrcVal.known]

theorem Primary.wfF_of_wf (p : Primary) (h : p.wf = true) : p.wfF = true := (p.wf_iff.1 h).1
theorem Canon.wfF_of_wf (c : Canon) (h : c.wf = true) : c.wfF = true := (c.wf_iff.1 h).1

theorem CrcVal.wireX_of_wire (c : CrcVal) (h : c.wire = true) : c.wireX = true := by
  cases c <;> first | rfl | exact absurd h nofun
theorem CrcVal.known_of_wire (c : CrcVal) (h : c.wire = true) : c.known = true := by
  cases c <;> first | rfl | exact absurd h nofun
theorem CrcVal.knownX_of_known (c : CrcVal) (h : c.known = true) : c.knownX = true := by
  cases c <;> first | rfl | exact absurd h nofun
theorem CrcVal.reset_toCode (c : CrcVal) : c.reset.toCode = c.toCode := by cases c <;> rfl
theorem CrcVal.reset_known (c : CrcVal) (h : c.known = true) : c.reset.known = true := by
  cases c <;> first | rfl | exact absurd h nofun
theorem CrcVal.toCode_le_of_known (c : CrcVal) (h : c.known = true) : c.toCode ≤ 2 := by
  cases c <;> simp_all [CrcVal.known, CrcVal.toCode]
theorem CrcVal.toCode_lt_of_wireX (c : CrcVal) (h : c.wireX = true) : c.toCode < 256 := by
  cases c <;> simp_all [CrcVal.wireX, CrcVal.toCode]

theorem Bundle.wf_iff (b : Bundle) : b.wf = true ↔ b.primary.wf = true ∧ ∀ c ∈ b.canon, c.wf = true := by
  simp only [Bundle.wf, Bool.and_eq_true, List.all_eq_true]

theorem Bundle.wfX_iff (b : Bundle) : b.wfX = true ↔
    (b.primary.wfF = true ∧ b.primary.crc.knownX = true) ∧ ∀ c ∈ b.canon, c.wfF = true ∧ c.crc.knownX = true := by
  simp only [Bundle.wfX, Primary.wfX, Canon.wfX, Bool.and_eq_true, List.all_eq_true]

theorem Bundle.wfX_of_wf (b : Bundle) (h : b.wf = true) : b.wfX = true :=
  have h := b.wf_iff.1 h
  b.wfX_iff.2 ⟨⟨b.primary.wfF_of_wf h.1, CrcVal.knownX_of_known _ (b.primary.wf_iff.1 h.1).2⟩,
    fun c hc => ⟨c.wfF_of_wf (h.2 c hc), CrcVal.knownX_of_known _ (c.wf_iff.1 (h.2 c hc)).2⟩⟩

theorem Bundle.known_of_wf (b : Bundle) (h : b.wf = true) :
    b.primary.crc.known = true ∧ ∀ c ∈ b.canon, c.crc.known = true :=
  have h := b.wf_iff.1 h
  ⟨(b.primary.wf_iff.1 h.1).2, fun c hc => (c.wf_iff.1 (h.2 c hc)).2⟩

/-- the value ranges of `wfF`, in the form the readers' lemmas take them -/
structure Primary.Fields (p : Primary) : Prop where
  version : p.version < 4294967296
  flags : p.flags < 18446744073709551616
  dst : p.dst.wf = true
  src : p.src.wf = true
  rpt : p.rpt.wf = true
  ts : p.ts < 18446744073709551616
  seq : p.seq < 18446744073709551616
  lifetime : p.lifetime < 18446744073709551616
  fragOff : p.fragOff < 18446744073709551616
  total : p.total < 18446744073709551616
  frag : p.isFragment = false → p.fragOff = 0 ∧ p.total = 0

theorem Primary.fields (p : Primary) (h : p.wfF = true) : p.Fields := by
  simp only [Primary.wfF, Primary.wf, Primary.isFragment_setCrc, Bool.and_eq_true, Bool.or_eq_true, beq_iff_eq,
    U64_eq, U32_eq] at h
  obtain ⟨⟨⟨⟨⟨⟨⟨⟨⟨⟨⟨hver, hfl⟩, _⟩, hdst⟩, hsrc⟩, hrpt⟩, hts⟩, hseq⟩, hlt⟩, hfo⟩, htot⟩, hfr⟩ := h
  exact ⟨of_decide_eq_true hver, of_decide_eq_true hfl, hdst, hsrc, hrpt, of_decide_eq_true hts, of_decide_eq_true hseq,
    of_decide_eq_true hlt, of_decide_eq_true hfo, of_decide_eq_true htot, fun hf => hfr.resolve_left (hf ▸ Bool.false_ne_true)⟩

structure Canon.Fields (c : Canon) : Prop where
  btype : c.btype < 18446744073709551616
  num : c.num < 18446744073709551616
  flags : c.flags < 256
  len : (btsd c.data).length < 18446744073709551616

theorem Canon.fields (c : Canon) (h : c.wfF = true) : c.Fields := by
  simp only [Canon.wfF, Canon.wf, Bool.and_eq_true, U64_eq] at h
  obtain ⟨⟨⟨⟨⟨ht, hn⟩, hf⟩, _⟩, hl⟩, _⟩ := h
  exact ⟨of_decide_eq_true ht, of_decide_eq_true hn, of_decide_eq_true hf, of_decide_eq_true hl⟩

theorem btsd_length (c : Canon) (h : c.wf = true) : (btsd c.data).length < 18446744073709551616 :=
  (c.fields (c.wfF_of_wf h)).len

@[elab_as_elim]
theorem Eid.wf_cases {motive : Eid → Prop} (e : Eid) (h : e.wf = true) (null : motive (.null 1 0))
    (dtn : ∀ ssp, ssp.isEmpty = false → validUtf8 ssp = true → ssp.length < 18446744073709551616 → motive (.dtn 1 ssp))
    (ipn : ∀ n s, 1 ≤ n → n < 18446744073709551616 → s < 18446744073709551616 → motive (.ipn 2 n s)) : motive e := by
  cases e with
  | null c v =>
    simp only [Eid.wf, Bool.and_eq_true, beq_iff_eq] at h
    obtain ⟨rfl, rfl⟩ := h
    exact null
  | dtn c ssp =>
    simp only [Eid.wf, Bool.and_eq_true, beq_iff_eq, Bool.not_eq_true', decide_eq_true_eq] at h
    obtain ⟨⟨⟨rfl, hne⟩, hu⟩, hl⟩ := h
    exact dtn ssp hne hu hl
  | ipn c n s =>
    simp only [Eid.wf, Bool.and_eq_true, beq_iff_eq, decide_eq_true_eq] at h
    obtain ⟨⟨⟨rfl, h1⟩, hn⟩, hs⟩ := h
    exact ipn n s h1 hn hs

theorem readPairU64_enc (a b : Nat) (ha : a < 18446744073709551616) (hb : b < 18446744073709551616) (d : Nat) (hd : 2 ≤ d) (rest : Bytes) :
    readPairU64 ⟨encArrayHead 2 ++ encUint a ++ encUint b ++ rest, d⟩ = (.ok (a, b), ⟨rest, d⟩) := by
  simp only [List.append_assoc]
  refine readSeq_ok visitPairU64 2 (by omega) _ rest d (by omega) (a, b) ?_
  simp only [visitPairU64_eq, reqElem_succ, bind_apply, pure_apply, readU64_enc a ha, readU64_enc b hb]

/-- `[1, n, …]` is read as `dtn:none` whatever the number `n`: the text reader refuses it, and that
    error is swallowed (`dtn:none` itself is written `[1, 0]`) -/
theorem visitEid_dtn_uint (n : Nat) (hn : n < 18446744073709551616) (rest : Bytes) (d k : Nat) :
    visitEid (some (k + 2)) ⟨encUint 1 ++ (encUint n ++ rest), d⟩ = (.ok (Eid.dtnNone, some k), ⟨rest, d⟩) := by
  have : readString ⟨encUint n ++ rest, d⟩ = (.err .type, ⟨rest, d⟩) := by
    rw [readString, tagFuel, encUint, parseWith_encHead _ 0 n _ (by omega) hn]; rfl
  simp only [visitEid_eq, reqElem_succ, bind_apply, pure_apply, readU8_enc 1 (by omega), if_true, recover, nextElem_succ, this]

/-- scheme code 2: the ssp is an ipn address, with a node number of at least 1 -/
theorem visitEid_ipn (k : Nat) (x : Bytes) (d : Nat) :
    visitEid (some (k + 1)) ⟨encUint 2 ++ x, d⟩ =
      (reqElem readPairU64 (some k) >>= fun q =>
        if q.1.1 ≥ 1 then pure (Eid.ipn 2 q.1.1 q.1.2, q.2) else P.fail .value) ⟨x, d⟩ := by
  rw [visitEid_eq, reqElem_succ, bind_ok (bind_ok (readU8_enc 2 (by omega) d x) _)]
  rfl

/-- any other number in place of the scheme code, in the range of `u8` or beyond it, is an invalid value -/
theorem visitEid_unknown (code : Nat) (hc : code < 18446744073709551616) (h1 : code ≠ 1) (h2 : code ≠ 2)
    (k : Nat) (x : Bytes) (d : Nat) :
    visitEid (some (k + 1)) ⟨encUint code ++ x, d⟩ = (.err .value, ⟨x, d⟩) := by
  have hr : readU8 ⟨encUint code ++ x, d⟩ = _ := parseWith_kUint 256 code hc _ x d
  rw [visitEid_eq, reqElem_succ]
  by_cases h8 : code < 256
  · rw [if_pos h8] at hr
    rw [bind_ok (bind_ok hr _)]
    dsimp only [pure_apply]
    rw [if_neg h1, if_neg h2]
    rfl
  · rw [if_neg h8] at hr
    rw [bind_err (bind_err hr _)]

theorem readEid_enc (e : Eid) (h : e.wf = true) (d : Nat) (hd : 3 ≤ d) (rest : Bytes) :
    readEid ⟨encEid e ++ rest, d⟩ = (.ok e, ⟨rest, d⟩) := by
  refine e.wf_cases h ?_ (fun ssp hne hu hl => ?_) fun n s h1 hn hs => ?_
  · simp only [encEid, List.append_assoc]
    exact readSeq_ok visitEid 2 (by omega) _ rest d (by omega) _ (visitEid_dtn_uint 0 (by omega) rest (d - 1) 0)
  · simp only [encEid, List.append_assoc]
    refine readSeq_ok visitEid 2 (by omega) _ rest d (by omega) _ ?_
    simp only [visitEid_eq, reqElem_succ, bind_apply, pure_apply, readU8_enc 1 (by omega), if_true, recover, nextElem_succ,
      readString_enc ssp hl hu, hne]
    rfl
  · have hp := readPairU64_enc n s hn hs (d - 1) (by omega) rest
    simp only [List.append_assoc] at hp
    simp only [encEid, List.append_assoc]
    refine readSeq_ok visitEid 2 (by omega) _ rest d (by omega) _ ?_
    rw [visitEid_ipn, reqElem_succ, bind_ok (bind_ok hp _)]
    exact congrFun (if_pos h1) _

theorem crcFieldCount_le (c : CrcVal) : crcFieldCount c ≤ 1 := by
  unfold crcFieldCount; split <;> omega

theorem visitCrc_enc (c : CrcVal) (hw : c.wireX = true) (n : Nat) (rest : Bytes) (d : Nat) :
    visitCrc c.toCode (some (n + crcFieldCount c)) ⟨encCrcField c ++ rest, d⟩
      = (.ok (c, some n), ⟨rest, d⟩) := by
  cases c with
  | no => rfl
  | v16 x y =>
    simp [visitCrc_eq, CrcVal.toCode, crcFieldCount, CrcVal.bytes, encCrcField, reqElem_succ, bind_apply, pure_apply,
      readByteBuf_enc [x, y] (by simp)]
  | v32 x y z w =>
    simp [visitCrc_eq, CrcVal.toCode, crcFieldCount, CrcVal.bytes, encCrcField, reqElem_succ, bind_apply, pure_apply,
      readByteBuf_enc [x, y, z, w] (by simp)]
  | empty16 | empty32 => exact absurd hw nofun
  | unknown k =>
    simp only [CrcVal.wireX, Bool.and_eq_true, decide_eq_true_eq] at hw
    rw [visitCrc_eq, CrcVal.toCode, if_neg (by omega), if_neg (by omega), if_neg (by omega)]
    rfl

/-- CRC type 1 or 2: a byte string of any other length than the type's is refused -/
theorem visitCrc_length (t : Nat) (bs : Bytes) (hl : bs.length < 18446744073709551616)
    (hbad : (t = 1 ∧ bs.length ≠ 2) ∨ (t = 2 ∧ bs.length ≠ 4)) (n : Nat) (rest : Bytes) (d : Nat) :
    visitCrc t (some (n + 1)) ⟨encBytes bs ++ rest, d⟩ = (.err .length, ⟨rest, d⟩) := by
  have hb : reqElem readByteBuf (some (n + 1)) ⟨encBytes bs ++ rest, d⟩ = (.ok (bs, some n), ⟨rest, d⟩) := by
    rw [reqElem_succ, bind_ok (readByteBuf_enc bs hl d rest)]; rfl
  rcases hbad with ⟨rfl, hne⟩ | ⟨rfl, hne⟩
  · rw [visitCrc_eq, if_neg (by decide), if_pos rfl, bind_ok hb]
    rcases bs with _ | ⟨_, _ | ⟨_, _ | _⟩⟩ <;> first | rfl | exact absurd rfl hne
  · rw [visitCrc_eq, if_neg (by decide), if_neg (by decide), if_pos rfl, bind_ok hb]
    rcases bs with _ | ⟨_, _ | ⟨_, _ | ⟨_, _ | ⟨_, _ | _⟩⟩⟩⟩ <;> first | rfl | exact absurd rfl hne

theorem visitCrc_field_err (t : Nat) (ht : t = 1 ∨ t = 2) (n : Nat) (x : Bytes) (d : Nat) (e : Err) (s' : St)
    (hx : readByteBuf ⟨x, d⟩ = (.err e, s')) : visitCrc t (some (n + 1)) ⟨x, d⟩ = (.err e, s') := by
  rcases ht with rfl | rfl <;> simp [visitCrc_eq, reqElem_succ, bind_apply, hx]

/-- what `PrimaryBlockVisitor::visit_seq` does after the eight mandatory items, whose values are
    those of `p`, with CRC type code `crcType` -/
def primaryTail (p : Primary) (crcType : Nat) (acc : Acc) : P (Primary × Acc) :=
  let hasFrag : Bool := match acc with
    | some rest => rest > 1
    | none => flagsContain F_ALL p.flags F_IS_FRAGMENT
  (if hasFrag then do
      let (o, acc) ← reqElem readU64 acc
      let (t, acc) ← reqElem readU64 acc
      pure ((o, t), acc)
   else pure ((0, 0), acc) : P ((Nat × Nat) × Acc)) >>= fun ((fragOff, total), acc) =>
  visitCrc crcType acc >>= fun (crc, acc) =>
  pure ({ version := p.version, flags := p.flags, crc, dst := p.dst, src := p.src, rpt := p.rpt, ts := p.ts,
          seq := p.seq, lifetime := p.lifetime, fragOff, total }, acc)

theorem visitPrimary_mandatory (p : Primary) (F : p.Fields) (crcType : Nat) (hct : crcType < 256)
    (n : Nat) (tail : Bytes) (d : Nat) (hd : 3 ≤ d) :
    visitPrimary (some (n + 8))
      ⟨encUint p.version ++ (encUint p.flags ++ (encUint crcType ++ (encEid p.dst ++ (encEid p.src ++ (encEid p.rpt ++
        (encArrayHead 2 ++ (encUint p.ts ++ (encUint p.seq ++ (encUint p.lifetime ++ tail))))))))), d⟩
      = primaryTail p crcType (some n) ⟨tail, d⟩ := by
  have hpair := readPairU64_enc p.ts p.seq F.ts F.seq d (by omega)
  simp only [List.append_assoc] at hpair
  simp only [visitPrimary, bind_apply, pure_apply, reqElem_succ,
    readU32_enc p.version F.version, readU64_enc p.flags F.flags, readU8_enc crcType hct,
    readEid_enc p.dst F.dst d hd, readEid_enc p.src F.src d hd, readEid_enc p.rpt F.rpt d hd,
    hpair, readU64_enc p.lifetime F.lifetime]
  rfl

theorem readPrimary_enc (p : Primary) (h : p.wfF = true) (hw : p.crc.wireX = true)
    (d : Nat) (hd : 4 ≤ d) (rest : Bytes) :
    readPrimary ⟨encPrimary p ++ rest, d⟩ = (.ok p, ⟨rest, d⟩) := by
  have F := p.fields h
  have hc := crcFieldCount_le p.crc
  have hvc := visitCrc_enc p.crc hw 0 rest (d - 1)
  rw [Nat.zero_add] at hvc
  simp only [encPrimary, List.append_assoc]
  refine readSeq_ok visitPrimary _ (by split <;> omega) _ rest d (by omega) p ?_
  rw [Nat.add_assoc, Nat.add_comm 8, Nat.add_comm _ (crcFieldCount p.crc),
    visitPrimary_mandatory p F _ (p.crc.toCode_lt_of_wireX hw) _ _ (d - 1) (by omega)]
  -- the fragment fields are written, announced and read iff the flag is set; then the CRC field
  cases hf : p.isFragment
  · obtain ⟨h0, h1⟩ := F.frag hf
    have hgt : decide (crcFieldCount p.crc > 1) = false := by simp; omega
    simp only [Bool.false_eq_true, if_false, Nat.add_zero, List.nil_append, primaryTail, hgt, bind_apply, pure_apply, hvc]
    cases p; cases h0; cases h1; rfl
  · have hgt : decide (crcFieldCount p.crc + 2 > 1) = true := by simp
    simp only [if_true, primaryTail, hgt, bind_apply, pure_apply, reqElem_succ, List.append_assoc,
      readU64_enc p.fragOff F.fragOff, readU64_enc p.total F.total, hvc]

theorem decodeBtsd_prev (raw : Bytes) : decodeBtsd 6 raw = (fromSlice readEid raw).map .prev := rfl
theorem decodeBtsd_age (raw : Bytes) : decodeBtsd 7 raw = (fromSlice readU64 raw).map .age := rfl
theorem decodeBtsd_hop (raw : Bytes) :
    decodeBtsd 10 raw = (fromSlice (readSeq visitPairU8) raw).map fun p => .hop p.1 p.2 := rfl

@[elab_as_elim]
theorem Canon.wfF_data {motive : Nat → CData → Prop} (c : Canon) (h : c.wfF = true)
    (data : ∀ b, motive PAYLOAD_BLOCK (.data b)) (age : ∀ ms, ms < 18446744073709551616 → motive BUNDLE_AGE_BLOCK (.age ms))
    (hop : ∀ l n, l < 256 → n < 256 → motive HOP_COUNT_BLOCK (.hop l n)) (prev : ∀ e, e.wf = true → motive PREVIOUS_NODE_BLOCK (.prev e))
    (unknown : ∀ t b, t ≠ PAYLOAD_BLOCK → t ≠ BUNDLE_AGE_BLOCK → t ≠ HOP_COUNT_BLOCK → t ≠ PREVIOUS_NODE_BLOCK → motive t (.unknown b)) : motive c.btype c.data := by
  simp only [Canon.wfF, Canon.wf, Bool.and_eq_true] at h
  obtain ⟨_, hd⟩ := h
  cases hdat : c.data with
  | data b => simp only [hdat, beq_iff_eq] at hd; exact hd ▸ data b
  | age ms =>
    simp only [hdat, Bool.and_eq_true, beq_iff_eq, decide_eq_true_eq] at hd
    exact hd.1 ▸ age ms hd.2
  | hop l n =>
    simp only [hdat, Bool.and_eq_true, beq_iff_eq, decide_eq_true_eq] at hd
    exact hd.1.1 ▸ hop l n hd.1.2 hd.2
  | prev e =>
    simp only [hdat, Bool.and_eq_true, beq_iff_eq] at hd
    exact hd.1 ▸ prev e hd.2
  | unknown b =>
    simp only [hdat, Bool.and_eq_true, bne_iff_ne, ne_eq] at hd
    exact unknown _ b hd.1.1.1 hd.1.1.2 hd.1.2 hd.2
  | decErr => simp [hdat] at hd

theorem decodeBtsd_enc (c : Canon) (h : c.wfF = true) : decodeBtsd c.btype (btsd c.data) = .ok c.data := by
  refine c.wfF_data h (motive := fun t d => decodeBtsd t (btsd d) = .ok d) (fun b => rfl) (fun ms hms => ?_) (fun l n hl hn => ?_)
    (fun e he => ?_) (fun t b h1 h7 h10 h6 => ?_)
  · exact (decodeBtsd_age _).trans (congrArg (Res.map CData.age) (fromSlice_enc readU64 _ ms (readU64_enc ms hms 128)))
  · refine (decodeBtsd_hop _).trans (congrArg (Res.map fun p => CData.hop p.1 p.2) (fromSlice_enc _ _ (l, n) fun rest => ?_))
    simp only [btsd, encCData, List.append_assoc]
    refine readSeq_ok visitPairU8 2 (by omega) _ rest 128 (by omega) (l, n) ?_
    simp only [visitPairU8, bind_apply, pure_apply, reqElem_succ, readU8_enc l hl, readU8_enc n hn]
  · exact (decodeBtsd_prev _).trans (congrArg (Res.map CData.prev) (fromSlice_enc readEid _ e (readEid_enc e he 128 (by omega))))
  · simp [decodeBtsd, btsd, h1, h7, h10, h6]

theorem liftRes_ok {α} (a : α) (s : St) : liftRes (.ok a) s = (.ok a, s) := rfl

theorem visitCanon_items (bt num fl t : Nat) (hbt : bt < 18446744073709551616) (hn : num < 18446744073709551616)
    (hf : fl < 256) (ht : t < 256) (raw : Bytes) (hl : raw.length < 18446744073709551616) (n : Nat) (tail : Bytes) (d : Nat) :
    visitCanon (some (n + 5)) ⟨encUint bt ++ (encUint num ++ (encUint fl ++ (encUint t ++ (encBytes raw ++ tail)))), d⟩
      = (liftRes (decodeBtsd bt raw) >>= fun data => visitCrc t (some n) >>= fun (crc, acc) =>
          (pure ({ btype := bt, num := num, flags := fl, crc, data }, acc) : P (Canon × Acc))) ⟨tail, d⟩ := by
  simp only [visitCanon, bind_apply, pure_apply, reqElem_succ, readU64_enc bt hbt, readU64_enc num hn, readU8_enc fl hf,
    readU8_enc t ht, readByteBuf_enc raw hl]

theorem visitCanon_mandatory (c : Canon) (h : c.wfF = true) (crcType : Nat) (hct : crcType < 256)
    (n : Nat) (tail : Bytes) (d : Nat) :
    visitCanon (some (n + 5))
      ⟨encUint c.btype ++ (encUint c.num ++ (encUint c.flags ++ (encUint crcType ++ (encBytes (btsd c.data) ++ tail)))), d⟩
      = (visitCrc crcType (some n) >>= fun (crc, acc) =>
          (pure ({ btype := c.btype, num := c.num, flags := c.flags, crc, data := c.data }, acc) : P (Canon × Acc))) ⟨tail, d⟩ := by
  have F := c.fields h
  rw [visitCanon_items _ _ _ _ F.btype F.num F.flags hct _ F.len, decodeBtsd_enc c h]
  rfl

theorem readCanon_enc (c : Canon) (h : c.wfF = true) (hw : c.crc.wireX = true)
    (d : Nat) (hd : 2 ≤ d) (rest : Bytes) :
    readCanon ⟨encCanon c ++ rest, d⟩ = (.ok c, ⟨rest, d⟩) := by
  have hcnt := crcFieldCount_le c.crc
  have hvc := visitCrc_enc c.crc hw 0 rest (d - 1)
  rw [Nat.zero_add] at hvc
  simp only [encCanon, List.append_assoc]
  refine readSeq_ok visitCanon _ (by omega) _ rest d (by omega) c ?_
  rw [Nat.add_comm 5, visitCanon_mandatory c h _ (c.crc.toCode_lt_of_wireX hw), bind_ok hvc]
  rfl

/-- the first byte of an array head has major type 4; the break byte has 7 -/
theorem encArrayHead_ne_break (n : Nat) (rest : Bytes) : ∃ b tl, encArrayHead n ++ rest = b :: tl ∧ b.toNat ≠ 255 := by
  obtain ⟨b, tl, hb, hm⟩ := encHead_major 4 n (by omega)
  exact ⟨b, tl ++ rest, by rw [encArrayHead, hb]; rfl, by omega⟩

theorem encCanon_ne_break (c : Canon) : ∃ b tl, encCanon c = b :: tl ∧ b.toNat ≠ 255 := by
  simp only [encCanon, List.append_assoc]
  exact encArrayHead_ne_break _ _

theorem encPrimary_ne_break (p : Primary) : ∃ b tl, encPrimary p = b :: tl ∧ b.toNat ≠ 255 := by
  simp only [encPrimary, List.append_assoc]
  exact encArrayHead_ne_break _ _

theorem encCanons_length (cs : List Canon) : cs.length ≤ ((cs.map encCanon).flatten).length :=
  length_le_flatten encCanon cs fun c _ h => by
    obtain ⟨b, tl, hb, _⟩ := encCanon_ne_break c
    rw [hb] at h; cases h

/-- a bundle as it stands on the wire: field values in range, CRC values as they are written
    (or an unknown CRC type code, which is written without a value) -/
def Bundle.Wire (b : Bundle) : Prop :=
  (b.primary.wfF = true ∧ b.primary.crc.wireX = true) ∧ ∀ c ∈ b.canon, c.wfF = true ∧ c.crc.wireX = true

theorem visitBundle_blocks (b : Bundle) (hb : b.Wire) (x : Bytes) (d : Nat) (hd : 4 ≤ d) :
    ∃ f, visitBundle none ⟨encBlocks b ++ x, d⟩ =
      (collectElems readCanon (f + 1) b.canon none >>= fun c =>
        pure ({ primary := b.primary, canon := c.1 }, c.2)) ⟨x, d⟩ := by
  obtain ⟨pb, ptl, hpe, hpne⟩ := encPrimary_ne_break b.primary
  have hrp := readPrimary_enc b.primary hb.1.1 hb.1.2 d hd ((b.canon.map encCanon).flatten ++ x)
  have hlen := encCanons_length b.canon
  refine ⟨((b.canon.map encCanon).flatten ++ x).length - b.canon.length, ?_⟩
  rw [visitBundle_eq, encBlocks, List.append_assoc]
  rw [hpe] at hrp ⊢
  rw [List.cons_append] at hrp ⊢
  rw [bind_ok (show reqElem readPrimary none _ = _ by rw [reqElem_none_cons _ _ _ _ hpne, bind_ok hrp]; rfl)]
  simp only [bind_apply]
  rw [show ((b.canon.map encCanon).flatten ++ x).length + 1
      = b.canon.length + (((b.canon.map encCanon).flatten ++ x).length - b.canon.length + 1) by
        rw [List.length_append]; omega,
    collectElems_enc_indef readCanon encCanon b.canon d (fun c hc => readCanon_enc c (hb.2 c hc).1 (hb.2 c hc).2 d (by omega))
      (fun c _ => encCanon_ne_break c)]
  rfl

theorem parse_wire (b : Bundle) (hb : b.Wire) (fuel d : Nat) (hd : 5 ≤ d) (rest : Bytes) :
    parseWith (kSeq visitBundle) (fuel + 1) ⟨[0x9f] ++ encBlocks b ++ [0xff] ++ rest, d⟩ = (.ok b, ⟨rest, d⟩) := by
  obtain ⟨d, rfl⟩ : ∃ d', d = d' + 2 := ⟨d - 2, by omega⟩
  obtain ⟨f, hv⟩ := visitBundle_blocks b hb (0xff :: rest) (d + 1) (by omega)
  rw [List.append_assoc, List.append_assoc, List.singleton_append, List.singleton_append, parseWith_kSeq_arrayI,
    recursionChecked_succ, seqBody, bind_ok (hv.trans (bind_ok (collectElems_break ..) _))]
  rfl

theorem decodeBundle_9f (body : Bytes) :
    decodeBundle (0x9f :: body) =
      match seqBody visitBundle none ⟨body, 127⟩ with
      | (.ok b, s) => if s.inp.isEmpty then .ok b else .err .trailing
      | (.err e, _) => .err e
      | (.panic p, _) => .panic p := by
  rw [decodeBundle, fromSlice, readBundle, readSeq, tagFuel, parseWith_kSeq_arrayI, recursionChecked_succ]
  rcases seqBody visitBundle none ⟨body, 127⟩ with ⟨_ | _ | _, s⟩ <;> rfl

/-- a block begins with a byte other than the break byte (`encArrayHead_ne_break`): the bundle's sequence goes on -/
theorem decodeBundle_primary_err (blk : Bytes) (hb : ∃ b tl, blk = b :: tl ∧ b.toNat ≠ 255) (e : Err) (s' : St)
    (h : readPrimary ⟨blk, 127⟩ = (.err e, s')) : decodeBundle (0x9f :: blk) = .err e := by
  obtain ⟨b, tl, rfl, hb⟩ := hb
  have hv : visitBundle none ⟨b :: tl, 127⟩ = (.err e, s') := by
    rw [visitBundle_eq, bind_err (by rw [reqElem_none_cons _ _ _ _ hb, bind_err h])]
  rw [decodeBundle_9f, seqBody, bind_err hv]

theorem decodeBundle_canon_err (bd : Bundle) (hbd : bd.Wire) (blk : Bytes) (hb : ∃ b tl, blk = b :: tl ∧ b.toNat ≠ 255)
    (e : Err) (s' : St) (h : readCanon ⟨blk, 127⟩ = (.err e, s')) :
    decodeBundle (0x9f :: (encBlocks bd ++ blk)) = .err e := by
  obtain ⟨b, tl, rfl, hb⟩ := hb
  obtain ⟨f, hv⟩ := visitBundle_blocks bd hbd (b :: tl) 127 (by omega)
  rw [decodeBundle_9f, seqBody, bind_err (hv.trans (bind_err (collectElems_err _ f _ b tl 127 hb e s' h) _))]

theorem decodeBundle_enc (b : Bundle) (hb : b.Wire) : decodeBundle ([0x9f] ++ encBlocks b ++ [0xff]) = .ok b :=
  -- the decoder starts with `tagFuel` = 129 + 1
  fromSlice_enc readBundle _ b (parse_wire b hb 129 128 (by omega))

end Bp7
