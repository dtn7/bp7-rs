/-
  GF(2)-linearity of the reflected CRC step and the "first difference sticks" invariant:
  two messages that differ inside a window of at most w/8 bytes have different CRC states.
-/
import Bp7.Model.Crc
namespace Bp7

variable {w : Nat}

theorem getLsbD_crcBit (poly x : BitVec w) (j : Nat) :
    (crcBit poly x).getLsbD j = (x.getLsbD (1 + j) ^^ (x.getLsbD 0 && poly.getLsbD j)) := by
  unfold crcBit
  split <;> rename_i h <;> simp [h]

theorem crcBit_zero (poly : BitVec w) : crcBit poly 0#w = 0#w := by
  simp [crcBit]

theorem crcBit_xor (poly x y : BitVec w) : crcBit poly (x ^^^ y) = crcBit poly x ^^^ crcBit poly y := by
  apply BitVec.eq_of_getLsbD_eq
  intro i _
  simp only [getLsbD_crcBit, BitVec.getLsbD_xor]
  rw [Bool.and_xor_distrib_right, Bool.xor_assoc, Bool.xor_assoc, Bool.xor_left_comm (y.getLsbD (1 + i))]

theorem crcBits_zero (poly : BitVec w) : ∀ n, crcBits poly n 0#w = 0#w
  | 0 => rfl
  | n+1 => by simp [crcBits, crcBit_zero, crcBits_zero poly n]

theorem crcBits_xor (poly : BitVec w) : ∀ n (x y : BitVec w),
    crcBits poly n (x ^^^ y) = crcBits poly n x ^^^ crcBits poly n y
  | 0, _, _ => rfl
  | n+1, x, y => by simp [crcBits, crcBit_xor, crcBits_xor poly n]

/-- The polynomial has its top bit set (`hp`). Then a step either brings that bit into the state
    (bit 0 was set) or shifts an even state down by one. -/
theorem crcBit_cases (poly x : BitVec w) (hp : poly.toNat ≥ 2 ^ (w - 1)) :
    (crcBit poly x).toNat ≥ 2 ^ (w - 1) ∨ x.toNat = 2 * (crcBit poly x).toNat := by
  unfold crcBit
  split
  · left
    apply BitVec.toNat_ge_of_msb_true
    simp [BitVec.msb_xor, BitVec.msb_ushiftRight, BitVec.msb_eq_decide poly, hp]
  · rename_i hb
    right
    rw [BitVec.getLsbD, Nat.testBit_zero, decide_eq_true_eq] at hb
    rw [BitVec.toNat_ushiftRight, Nat.shiftRight_eq_div_pow]
    omega

/-- one step at most halves the magnitude of the state, and never kills it (`k = 0`) -/
theorem crcBit_ge (poly x : BitVec w) (k : Nat) (hp : poly.toNat ≥ 2 ^ (w - 1)) (hx : x.toNat ≥ 2 ^ k) :
    (crcBit poly x).toNat ≥ 2 ^ (k - 1) := by
  rcases crcBit_cases poly x hp with h | h
  · have hkw : k < w := (Nat.pow_lt_pow_iff_right (by decide)).mp (Nat.lt_of_le_of_lt hx x.isLt)
    exact Nat.le_trans (Nat.pow_le_pow_right (by decide) (Nat.sub_le_sub_right (Nat.le_of_lt hkw) 1)) h
  · cases k with
    | zero => simp at hx ⊢; omega
    | succ k => rw [Nat.pow_succ] at hx; simp; omega

theorem crcBits_ge (poly : BitVec w) (hp : poly.toNat ≥ 2 ^ (w - 1)) :
    ∀ n (x : BitVec w) (k : Nat), x.toNat ≥ 2 ^ k → (crcBits poly n x).toNat ≥ 2 ^ (k - n)
  | 0, _, _, h => h
  | n+1, x, k, h => by
    rw [Nat.sub_add_eq, Nat.sub_right_comm]
    exact crcBits_ge poly hp n _ _ (crcBit_ge poly x k hp h)

/-- a non-zero state below 2^n has its lowest set bit shifted out within `n` steps; the
    polynomial's top bit comes in then, and is at most `n - 1` positions further down at the end -/
theorem crcBits_low_ge (poly : BitVec w) (hp : poly.toNat ≥ 2 ^ (w - 1)) :
    ∀ n (x : BitVec w), 1 ≤ x.toNat → x.toNat < 2 ^ n → (crcBits poly n x).toNat ≥ 2 ^ (w - n)
  | 0, x, h1, h2 => by simp at h2; omega
  | n+1, x, h1, h2 => by
    rw [crcBits, Nat.sub_add_eq, Nat.sub_right_comm]
    rcases crcBit_cases poly x hp with h | h
    · exact crcBits_ge poly hp n _ (w - 1) h
    · rw [Nat.pow_succ] at h2
      exact Nat.le_trans (Nat.pow_le_pow_right (by decide) (Nat.sub_le_sub_right (Nat.sub_le w 1) n))
        (crcBits_low_ge poly hp n _ (by omega) (by omega))

/-- zero-extension of a byte into the state width -/
def zext (w : Nat) (b : UInt8) : BitVec w := b.toBitVec.setWidth w

theorem crcByte_eq (poly s : BitVec w) (b : UInt8) : crcByte poly s b = crcBits poly 8 (s ^^^ zext w b) := rfl

theorem zext_xor (a b : UInt8) : zext w (a ^^^ b) = zext w a ^^^ zext w b := by
  simp [zext, BitVec.setWidth_xor]

theorem zext_zero : zext w (0 : UInt8) = 0#w := by
  simp [zext]

theorem zext_toNat (hw : 8 ≤ w) (b : UInt8) : (zext w b).toNat = b.toNat := by
  simp [zext, BitVec.toNat_setWidth_of_le hw]

theorem crcByte_xor (poly s1 s2 : BitVec w) (b1 b2 : UInt8) :
    crcByte poly (s1 ^^^ s2) (b1 ^^^ b2) = crcByte poly s1 b1 ^^^ crcByte poly s2 b2 := by
  rw [crcByte_eq, crcByte_eq, crcByte_eq, ← crcBits_xor, zext_xor]
  congr 1
  ac_rfl

theorem crcFeed_xor (poly : BitVec w) : ∀ (l1 l2 : Bytes) (s1 s2 : BitVec w), l1.length = l2.length →
    crcFeed poly (s1 ^^^ s2) (List.zipWith (· ^^^ ·) l1 l2) = crcFeed poly s1 l1 ^^^ crcFeed poly s2 l2
  | [], [], _, _, _ => rfl
  | a :: l1, b :: l2, s1, s2, h => by
    simp only [crcFeed, List.zipWith_cons_cons, List.foldl_cons]
    rw [crcByte_xor]
    exact crcFeed_xor poly l1 l2 _ _ (by simpa using h)
  | [], _ :: _, _, _, h => by simp at h
  | _ :: _, [], _, _, h => by simp at h

theorem crcFeed_append (poly s : BitVec w) (a b : Bytes) :
    crcFeed poly s (a ++ b) = crcFeed poly (crcFeed poly s a) b := by
  simp [crcFeed, List.foldl_append]

theorem xor_ge (a b k : Nat) (ha : 2 ^ k ≤ a) (hb : b < 2 ^ k) : 2 ^ k ≤ a ^^^ b := by
  apply Nat.le_of_not_lt
  intro h
  -- otherwise `a = (a ^^^ b) ^^^ b` would be below `2 ^ k` as well
  have := Nat.xor_lt_two_pow h hb
  rw [Nat.xor_assoc, Nat.xor_self, Nat.xor_zero] at this
  exact Nat.not_le.2 this ha

/-- what `diff_survives` asks for as `hC`, for every polynomial with its top bit set -/
theorem crcBits_byte_ge (poly : BitVec w) (hw : 8 ≤ w) (hp : poly.toNat ≥ 2 ^ (w - 1)) (e : UInt8) (he : e ≠ 0) :
    (crcBits poly 8 (zext w e)).toNat ≥ 2 ^ (w - 8) := by
  apply crcBits_low_ge poly hp 8 <;> rw [zext_toNat hw]
  · exact Nat.pos_of_ne_zero fun h => he (UInt8.toNat_inj.mp h)
  · exact e.toNat_lt

/-- the invariant: a difference that appears within the next `es.length ≤ w/8` bytes survives them -/
theorem diff_survives (poly : BitVec w) (hw : 8 ≤ w) (hp : poly.toNat ≥ 2 ^ (w - 1))
    (hC : ∀ e : UInt8, e ≠ 0 → (crcBits poly 8 (zext w e)).toNat ≥ 2 ^ (w - 8)) :
    ∀ (es : Bytes) (d : BitVec w), 8 * es.length ≤ w →
      ((d = 0#w ∧ ∃ e ∈ es, e ≠ 0) ∨ d.toNat ≥ 2 ^ (8 * es.length)) →
      (crcFeed poly d es).toNat ≥ 1
  | [], d, _, h => by
    rcases h with ⟨_, e, he, _⟩ | h
    · simp at he
    · simpa [crcFeed] using h
  | e :: es, d, hl, h => by
    rw [List.length_cons, Nat.mul_succ] at hl h
    refine diff_survives poly hw hp hC es (crcByte poly d e) (Nat.le_of_add_right_le hl) ?_
    rw [crcByte_eq]
    rcases h with ⟨rfl, x, hx, hxne⟩ | h
    · rw [BitVec.zero_xor]
      by_cases he : e = 0
      · subst he
        rw [zext_zero, crcBits_zero]
        exact .inl ⟨rfl, x, (List.mem_cons.mp hx).resolve_left hxne, hxne⟩
      · exact .inr (Nat.le_trans (Nat.pow_le_pow_right (by decide) (Nat.le_sub_of_add_le hl)) (hC e he))
    · right
      have hx : (d ^^^ zext w e).toNat ≥ 2 ^ (8 * es.length + 8) := by
        rw [BitVec.toNat_xor, zext_toNat hw]
        exact xor_ge _ _ _ h (Nat.lt_of_lt_of_le e.toNat_lt (Nat.pow_le_pow_right (by decide) (Nat.le_add_left 8 _)))
      simpa using crcBits_ge poly hp 8 _ _ hx

/-- a non-zero difference is never cancelled by equal bytes on both sides -/
theorem diff_persists (poly : BitVec w) (hw : 8 ≤ w) (hp : poly.toNat ≥ 2 ^ (w - 1)) :
    ∀ (n : Nat) (d : BitVec w), d.toNat ≥ 1 → (crcFeed poly d (List.replicate n 0)).toNat ≥ 1
  | 0, _, h => by simpa [crcFeed] using h
  | n+1, d, h => by
    simp only [crcFeed, List.replicate_succ, List.foldl_cons]
    apply diff_persists poly hw hp n
    rw [crcByte_eq, zext_zero, BitVec.xor_zero]
    exact crcBits_ge poly hp 8 d 0 h

theorem exists_ne_of_ne : ∀ (a b : Bytes), a.length = b.length → a ≠ b →
    ∃ e ∈ List.zipWith (· ^^^ ·) a b, e ≠ (0 : UInt8)
  | [], [], _, h => absurd rfl h
  | x :: a, y :: b, hl, h => by
    by_cases hxy : x = y
    · obtain ⟨e, he, hne⟩ := exists_ne_of_ne a b (by simpa using hl) (fun e => h (by rw [hxy, e]))
      exact ⟨e, by simp [he], hne⟩
    · exact ⟨x ^^^ y, by simp, fun h0 => hxy (UInt8.xor_eq_zero_iff.mp h0)⟩
  | [], _ :: _, hl, _ => by simp at hl
  | _ :: _, [], hl, _ => by simp at hl

/-- **window theorem**: two messages equal except inside a window of `n ≤ w/8` bytes lead to
    different CRC states (hence different checksums) -/
theorem feed_window_ne (poly : BitVec w) (hw : 8 ≤ w) (hp : poly.toNat ≥ 2 ^ (w - 1))
    (init : BitVec w) (pre w1 w2 suf : Bytes) (hl : w1.length = w2.length) (hn : 8 * w1.length ≤ w)
    (hne : w1 ≠ w2) :
    crcFeed poly init (pre ++ w1 ++ suf) ≠ crcFeed poly init (pre ++ w2 ++ suf) := by
  intro heq
  simp only [crcFeed_append] at heq
  have hx := crcFeed_xor poly suf suf (crcFeed poly (crcFeed poly init pre) w1) (crcFeed poly (crcFeed poly init pre) w2) rfl
  rw [heq, BitVec.xor_self, List.zipWith_self] at hx
  simp only [UInt8.xor_self, List.map_const'] at hx
  have hd := crcFeed_xor poly w1 w2 (crcFeed poly init pre) (crcFeed poly init pre) hl
  rw [BitVec.xor_self] at hd
  have hsurv := diff_survives poly hw hp (crcBits_byte_ge poly hw hp) (List.zipWith (· ^^^ ·) w1 w2) 0#w
    (by rwa [List.length_zipWith, ← hl, Nat.min_self]) (Or.inl ⟨rfl, exists_ne_of_ne w1 w2 hl hne⟩)
  rw [hd] at hsurv
  have := diff_persists poly hw hp suf.length _ hsurv
  rw [hx] at this
  simp at this

end Bp7
