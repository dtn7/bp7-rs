/-
  The model's writer (Model/Cbor.lean, Model/Codec.lean) and the independent RFC reference
  (Spec/Cbor.lean, Spec/Rfc9171.lean) produce the same bytes.
-/
import Bp7.Lemmas.CrcBlocks
import Bp7.Lemmas.Flags
import Bp7.Spec.Rfc9171
namespace Bp7

/-- the reference takes the `k` low-order bytes of any number; the model's writer is given a number
    that has no more -/
theorem beBytes_mod_eq_bigEndian : ∀ (k n : Nat), beBytes k (n % 256 ^ k) = Spec.bigEndian k n
  | 0, _ => rfl
  | k+1, n => by
    rw [beBytes, Spec.bigEndian, Nat.pow_succ, Nat.mod_mul_right_div_self, Nat.mod_mul_right_mod,
      beBytes_mod_eq_bigEndian k n, Nat.shiftRight_eq_div_pow, Nat.pow_mul]

theorem beBytes_eq_bigEndian (k n : Nat) (h : n < 256 ^ k) : beBytes k n = Spec.bigEndian k n := by
  rw [← beBytes_mod_eq_bigEndian, Nat.mod_eq_of_lt h]

theorem eq_of_bigEndian (k m n : Nat) (hm : m < 256 ^ k) (hn : n < 256 ^ k)
    (h : Spec.bigEndian k m = Spec.bigEndian k n) : m = n := by
  rw [← beBytes_eq_bigEndian k m hm, ← beBytes_eq_bigEndian k n hn] at h
  rw [← beVal_beBytes k m hm, h, beVal_beBytes k n hn]

theorem encHead_eq_spec (major n : Nat) (hn : n < 18446744073709551616) :
    encHead major n = Spec.head major n := by
  have ib : ∀ a, a < 32 → major <<< 5 ||| a = major * 32 + a := fun a ha => by
    rw [← Nat.shiftLeft_add_eq_or_of_lt (show a < 2 ^ 5 from ha), Nat.shiftLeft_eq]
  have be : ∀ k, n < 256 ^ k → Spec.bigEndian k n = beBytes k n := fun k h => (beBytes_eq_bigEndian k n h).symm
  unfold encHead Spec.head
  -- the same conditions (`<` here, `≤` there), and branch by branch the same bytes
  simp only [← Nat.lt_succ_iff, Nat.succ_eq_add_one, Nat.reduceAdd]
  refine ite_congr rfl (fun h => ?_) fun _ => ite_congr rfl (fun h => ?_) fun _ => ite_congr rfl (fun h => ?_) fun _ =>
    ite_congr rfl (fun h => ?_) fun _ => ?_
  · rw [ib n (by omega)]
  · rw [ib 24 (by decide), be 1 h]; simp [beBytes]
  · rw [ib 25 (by decide), be 2 h]
  · rw [ib 26 (by decide), be 4 h]
  · rw [ib 27 (by decide), be 8 hn]

open Spec

-- The reference encoder's equations, all by `rfl`: `simp [encItem]` would have Lean derive the equation
-- of every constructor of `Item` in each module that asks.

theorem Spec.encItem_uint (n : Nat) : encItem (.uint n) = head 0 n := rfl
theorem Spec.encItem_bstr (b : Bytes) : encItem (.bstr b) = head 2 b.length ++ b := rfl
theorem Spec.encItem_tstr (b : Bytes) : encItem (.tstr b) = head 3 b.length ++ b := rfl
theorem Spec.encItem_arr (xs : List Item) : encItem (.arr xs) = head 4 xs.length ++ encItems xs := rfl
theorem Spec.encItem_arrI (xs : List Item) : encItem (.arrI xs) = [0x9f] ++ encItems xs ++ [0xff] := rfl
theorem Spec.encItems_nil : encItems [] = [] := rfl
theorem Spec.encItems_cons (x : Item) (xs : List Item) : encItems (x :: xs) = encItem x ++ encItems xs := rfl

/-- the reference encodes a sequence item by item: core's `flatMap` -/
theorem Spec.encItems_eq_flatMap (xs : List Item) : encItems xs = xs.flatMap encItem := by
  induction xs with
  | nil => rfl
  | cons x xs ih => rw [encItems_cons, List.flatMap_cons, ih]

theorem encItems_append (a b : List Item) : encItems (a ++ b) = encItems a ++ encItems b := by
  simp only [encItems_eq_flatMap, List.flatMap_append]

theorem encItems_map {α} (l : List α) (f : α → Bytes) (g : α → Item)
    (h : ∀ c ∈ l, f c = encItem (g c)) : (l.map f).flatten = encItems (l.map g) := by
  rw [encItems_eq_flatMap, List.flatMap_map, List.flatMap_def, List.map_congr_left h]

theorem encUint_eq (n : Nat) (hn : n < 18446744073709551616) : encUint n = encItem (.uint n) :=
  encHead_eq_spec 0 n hn

theorem encBytes_eq (b : Bytes) (hl : b.length < 18446744073709551616) : encBytes b = encItem (.bstr b) := by
  rw [encBytes, encItem_bstr, encHead_eq_spec 2 _ hl]

theorem encText_eq (b : Bytes) (hl : b.length < 18446744073709551616) : encText b = encItem (.tstr b) := by
  rw [encText, encItem_tstr, encHead_eq_spec 3 _ hl]

theorem encArrayHead_eq (n : Nat) (hn : n < 18446744073709551616) : encArrayHead n = head 4 n :=
  encHead_eq_spec 4 n hn

/-- endpoint IDs, ipn addresses, hop counts, administrative records, BPSec (id, value) pairs -/
theorem encPair_eq (i : Nat) (hi : i < 18446744073709551616) (e : Bytes) (x : Item) (he : e = encItem x) :
    encArrayHead 2 ++ encUint i ++ e = encItem (.arr [.uint i, x]) := by
  rw [he, encUint_eq i hi, encArrayHead_eq 2 (by omega), encItem_arr, encItems_cons, encItems_cons, encItems_nil,
    List.append_nil, List.append_assoc]
  rfl

theorem encEid_eq (e : Eid) (h : e.wf = true) : encEid e = encItem (eidItem e) :=
  e.wf_cases h (encPair_eq 1 (by decide) _ _ (encUint_eq 0 (by decide)))
    (fun ssp _ _ hl => encPair_eq 1 (by decide) _ _ (encText_eq ssp hl))
    fun n s _ hn hs => encPair_eq 2 (by decide) _ _ (encPair_eq n hn _ _ (encUint_eq s hs))

/-- the CRC item(s) the model writes for a stored CRC value -/
def crcItems (c : CrcVal) : List Item :=
  match c.bytes with
  | some b => [.bstr b]
  | none => []

theorem encCrcField_eq (c : CrcVal) : encCrcField c = encItems (crcItems c) := by
  cases c <;> first | rfl | simp [encCrcField, crcItems, CrcVal.bytes, encItems_cons, encItems_nil, encBytes_eq]

theorem crcItems_length (c : CrcVal) : (crcItems c).length = crcFieldCount c := by
  cases c <;> rfl

theorem isFragment_testBit (p : Primary) : p.isFragment = p.flags.testBit 0 :=
  flagsContain_bit F_ALL p.flags 0 (by decide)

theorem spec_isFragment (p : Primary) : Spec.isFragment p = p.isFragment := by
  rw [isFragment_testBit, Nat.testBit_zero]; rfl

theorem crcType_eq (c : CrcVal) : Spec.crcType c = c.toCode := by cases c <;> rfl

theorem encPrimary_eq (p : Primary) (h : p.wf = true) :
    encPrimary p = encItem (.arr (primaryFields p ++ crcItems p.crc)) := by
  have F := p.fields (p.wfF_of_wf h)
  have hcode := CrcVal.toCode_le_of_known _ (p.wf_iff.1 h).2
  have hcnt := crcFieldCount_le p.crc
  simp only [encPrimary, primaryFields, spec_isFragment, crcType_eq, encItem_arr, encItems_append, apply_ite encItems,
    encItems_cons, encItems_nil, List.length_append, apply_ite List.length, List.length_cons, List.length_nil,
    crcItems_length, encCrcField_eq, List.append_nil, List.append_assoc, Nat.reduceAdd,
    encUint_eq _ (show p.version < 18446744073709551616 by have := F.version; omega), encUint_eq _ F.flags,
    encUint_eq _ (show p.crc.toCode < 18446744073709551616 by omega), encEid_eq _ F.dst,
    encEid_eq _ F.src, encEid_eq _ F.rpt, encUint_eq _ F.ts,
    encUint_eq _ F.seq, encUint_eq _ F.lifetime, encUint_eq _ F.fragOff, encUint_eq _ F.total,
    encArrayHead_eq 2 (by omega)]
  rw [encArrayHead_eq _ (by split <;> omega), Nat.add_assoc]

theorem btsd_eq (c : Canon) (h : c.wf = true) : btsd c.data = btsdBytes c.data :=
  c.wfF_data (c.wfF_of_wf h) (motive := fun _ d => btsd d = btsdBytes d) (fun _ => rfl) (fun ms hms => encUint_eq ms hms)
    (fun l n hl hn => encPair_eq l (by omega) _ _ (encUint_eq n (by omega))) (fun e he => encEid_eq e he) fun _ _ _ _ _ _ => rfl

theorem encCanon_eq (c : Canon) (h : c.wf = true) :
    encCanon c = encItem (.arr (canonFields c ++ crcItems c.crc)) := by
  have F := c.fields (c.wfF_of_wf h)
  have hcode := CrcVal.toCode_le_of_known _ (c.wf_iff.1 h).2
  have hcnt := crcFieldCount_le c.crc
  simp only [encCanon, canonFields, crcType_eq, ← btsd_eq c h, encItem_arr, encItems_append, encItems_cons, encItems_nil,
    List.length_append, List.length_cons, List.length_nil, crcItems_length, encCrcField_eq, List.append_nil,
    List.append_assoc, encUint_eq _ F.btype, encUint_eq _ F.num,
    encUint_eq _ (show c.flags < 18446744073709551616 by have := F.flags; omega),
    encUint_eq _ (show c.crc.toCode < 18446744073709551616 by omega), encBytes_eq _ F.len]
  rw [encArrayHead_eq _ (by omega), Nat.add_comm]

/-- agreement of the reflected bit-serial CRC (model of the `crc` crate) with the
    catalogue-parameter reference; proved as `C02.crcAgree` (from Lemmas/CrcAgree.lean), kept as a
    hypothesis here so that this file does not depend on that proof -/
def CrcAgree : Prop :=
  (∀ d : Bytes, (crc16 d).toNat = Spec.crc16 d) ∧ (∀ d : Bytes, (crc32c d).toNat = Spec.crc32c d)

/-- the reference reduces every byte modulo 256, which `UInt8.ofNat` does anyway -/
theorem ofNat_mod_256 (n : Nat) : UInt8.ofNat (n % 256) = UInt8.ofNat n := UInt8.ofNat_mod_size

theorem be16_bytes (x : BitVec 16) : (be16 x).bytes = some (bigEndian 2 x.toNat) := by
  simp [be16, CrcVal.bytes, bigEndian, Nat.shiftRight_eq_div_pow, ofNat_mod_256]

theorem be32_bytes (x : BitVec 32) : (be32 x).bytes = some (bigEndian 4 x.toNat) := by
  simp [be32, CrcVal.bytes, bigEndian, Nat.shiftRight_eq_div_pow, ofNat_mod_256]

theorem zeros2 : zeros 2 = [0, 0] := rfl
theorem zeros4 : zeros 4 = [0, 0, 0, 0] := rfl

/-- the CRC item of the freshly computed value is the RFC's: the checksum, big-endian, of the block written with
    zero bytes in its place (§4.2.1) -/
theorem crcItems_calculate (c : CrcVal) (fs : List Item) (hag : CrcAgree) (hk : c.known = true) :
    crcItems (c.calculate (encItem (.arr (fs ++ crcItems c.reset)))) = crcItem fs (crcType c) := by
  cases c
  case unknown => exact absurd hk nofun
  case no => rfl
  case empty16 | v16 =>
    show crcItems (be16 (crc16 _)) = _
    rw [crcItems, be16_bytes, hag.1]; rfl
  case empty32 | v32 =>
    show crcItems (be32 (crc32c _)) = _
    rw [crcItems, be32_bytes, hag.2]; rfl

theorem primaryFields_crc (p : Primary) (c : CrcVal) (h : c.toCode = p.crc.toCode) :
    primaryFields { p with crc := c } = primaryFields p := by
  simp [primaryFields, Spec.isFragment, crcType_eq, h]

theorem canonFields_crc (x : Canon) (c : CrcVal) (h : c.toCode = x.crc.toCode) :
    canonFields { x with crc := c } = canonFields x := by
  simp [canonFields, crcType_eq, h]

/-- written with the freshly computed value, a block (`f c` with the value `c` stored) is the RFC's item if it is
    written as the RFC prescribes with any stored value of its type -/
theorem enc_updated (f : CrcVal → Bytes) (fs : List Item) (c : CrcVal) (hag : CrcAgree) (hk : c.known = true)
    (henc : ∀ v : CrcVal, v.known = true → v.toCode = c.toCode → f v = encItem (.arr (fs ++ crcItems v))) :
    f (c.calculate (f c.reset)) = encItem (.arr (fs ++ crcItem fs (crcType c))) := by
  rw [henc _ (c.calculate_known _ hk) (c.calculate_toCode _), henc _ (c.reset_known hk) c.reset_toCode,
    crcItems_calculate c fs hag hk]

theorem encPrimary_updated (hag : CrcAgree) (p : Primary) (h : p.wf = true) :
    encPrimary p.updateCrc = encItem (primaryItem p) :=
  enc_updated (fun c => encPrimary { p with crc := c }) (primaryFields p) p.crc hag (p.wf_iff.1 h).2 fun c hc hcode => by
    rw [encPrimary_eq _ ((Primary.wf_iff { p with crc := c }).2 ⟨p.wfF_of_wf h, hc⟩), primaryFields_crc p c hcode]

theorem encCanon_updated (hag : CrcAgree) (c : Canon) (h : c.wf = true) :
    encCanon c.updateCrc = encItem (canonItem c) :=
  enc_updated (fun v => encCanon { c with crc := v }) (canonFields c) c.crc hag (c.wf_iff.1 h).2 fun v hv hcode => by
    rw [encCanon_eq _ ((Canon.wf_iff { c with crc := v }).2 ⟨c.wfF_of_wf h, hv⟩), canonFields_crc c v hcode]

/-- model encoder = RFC reference encoder, given agreement of the two CRC definitions -/
theorem toCbor_eq_spec (hag : CrcAgree) (b : Bundle) (h : b.wf = true) :
    (b.toCbor).2 = Spec.encode b := by
  have h := b.wf_iff.1 h
  simp only [Bundle.toCbor, Spec.encode, bundleItem, encItem_arrI, encItems_cons, encBlocks, Bundle.calculateCrc,
    List.map_map, encPrimary_updated hag b.primary h.1]
  rw [encItems_map b.canon (encCanon ∘ Canon.updateCrc) canonItem fun c hc => encCanon_updated hag c (h.2 c hc)]

end Bp7
