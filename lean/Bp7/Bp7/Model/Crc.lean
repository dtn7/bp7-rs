/-
  CRC-16/IBM-SDLC (X.25) and CRC-32/ISCSI (Castagnoli) as the `crc` crate computes them for
  these catalogue entries (refin = refout = true): bit-serial, reflected polynomial.
  The crate's table lookup is modelled in Model/CrcTable.lean and proved equal to this bit-serial form
  (Lemmas/CrcTable.lean); the tie to the code is the `crc` correspondence op.
-/
import Bp7.Model.Basic
namespace Bp7

/-- one bit of the reflected algorithm -/
def crcBit {w : Nat} (poly : BitVec w) (x : BitVec w) : BitVec w :=
  if x.getLsbD 0 then (x >>> 1) ^^^ poly else x >>> 1

def crcBits {w : Nat} (poly : BitVec w) : Nat → BitVec w → BitVec w
  | 0, x => x
  | n+1, x => crcBits poly n (crcBit poly x)

/-- feed one byte -/
def crcByte {w : Nat} (poly : BitVec w) (s : BitVec w) (b : UInt8) : BitVec w :=
  crcBits poly 8 (s ^^^ (b.toBitVec.setWidth w))

def crcFeed {w : Nat} (poly : BitVec w) (s : BitVec w) (data : Bytes) : BitVec w :=
  data.foldl (crcByte poly) s

def POLY16 : BitVec 16 := 0x8408#16      -- reflect(0x1021)
def POLY32 : BitVec 32 := 0x82F63B78#32  -- reflect(0x1EDC6F41)

/-- `X25.checksum(data)`: init 0xffff, xorout 0xffff -/
def crc16 (data : Bytes) : BitVec 16 := crcFeed POLY16 0xFFFF#16 data ^^^ 0xFFFF#16
/-- `CASTAGNOLI.checksum(data)`: init 0xffffffff, xorout 0xffffffff -/
def crc32c (data : Bytes) : BitVec 32 := crcFeed POLY32 0xFFFFFFFF#32 data ^^^ 0xFFFFFFFF#32

end Bp7
